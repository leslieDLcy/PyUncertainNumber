import Pun.Lemmas.Iso
import Pun.Props.C01
/-!
# C12 — inclusion isotonicity: widening an input never narrows an output

All statements are about the functions the model driver executes (`Pun.Arith.binop`, `Pun.PBox.*`,
`Pun.Iso.ITree.eval`, `PTree.eval`, `stacking`, `alphaCut`, `slicing`), for ALL rational operands and
every number of steps.  `X ⊑ X'` is `PSub X X'` (`pbSub` is its executable form, `pbSub_iff`);
for intervals `VSub`.  "Dually, the result for a sub-box is contained in the result for the box" is
the same implication read from right to left.

Intervals (section `Intervals`):
* `ibin_spec`   every defined `l op r` (Interval or number on either side, `+ − × ÷`) is the EXACT image of
                its operands (sound, endpoints attained) — from the C01 theorems;
* `ibin_iso`    hence one operation is inclusion isotone whenever both runs are defined; `ineg_iso`;
* `itree_iso`   ★ a nested expression of ANY depth (repeated variables, constants) is inclusion isotone;
* `ivUnary_iso` endpoint image of an increasing unary map (exp, log, sqrt: parameters).

P-boxes (sections `PBoxes`, `Recip`, `Signed`, `DivF`; `Lemmas/Iso.lean` has the rule-level facts `iso_frechetOp`, `iso_perfectOp`,
`iso_oppositeOp`, `iso_independentOp`, `iso_naiveOp`, `sortR_forall₂`, `add_iso`):
* `add_iso`, `sub_iso`        ★ every dependency f, p, o, i;
* `mul_iso_poi`               ★ perfect / opposite / independent, all signs (four-corner rule);
* `mul_iso_f_pos`             Frechet product of non-negative operands with a positive upper end;
* `mul_iso_f_signed`          Frechet product for every combination of one-signed operands (non-negative / non-positive,
                              operands touching zero included) by conjugation with the negation;
* `neg_iso`, `numRight_iso`, `numLeft_iso`, `unary_iso`, `env_iso`, `imp_iso`  ★;
* `recip_iso`, `div_iso_poi`, `div_iso_f`, `numLeft_div_iso`  reciprocal, `X.div(Y, d)` under every dependency and
                              `c / X`, for a divisor of one strict sign (under `f` the dividend one-signed as well);
* `ptree_iso_partial`         nested p-box expressions of any depth over those nodes.
Each says: both runs return (the constructor accepts), both results are well formed, and they are nested
(`imp_iso`, `ptree_iso_partial`: provided the run on the narrower operands returns).

Mixed propagation (section `Mixed`):
* `alphaCut_iso`  ★ the cut index depends on the level only (`iso_slicing` of DESIGN-round0.md);
* `levelValue_mono` / `stackBound_mono` (in `Lemmas/Iso.lean`) ★ the generalised inverse of the cumulated mass is
  monotone in the focal endpoints (`geninv_antitone`); `stacking_iso`;
* `slicing_iso`   ★ slicing with a fixed number of slices and the direct interval strategy;
* `rowImages_iso`, `imc_iso`  interval Monte Carlo for ANY rows of levels, provided both runs use the same rows (that a
  dependency object draws the same rows on every call is a runtime fact: oracle).

NOT proved (stated as `C12Statement` / `C12DivStatement`, checked by the correspondence and the oracle only): the
Frechet product (and quotient) when an operand STRADDLES zero — the naive ∩ Balch branch — or when the sign class
changes between `X` and `X'` (e.g. `X ≤ 0`, `X'` straddling).  `naiveOp` and `imp` are isotone (`iso_naiveOp`,
`imp_iso`), but `balchprod` is not a composition of isotone pieces: it shifts by `y0 = lo(Y)`, and `Y ↦ Y − lo(Y)` is
not isotone (widening `Y` lowers `y0`, which RAISES the left bound of `Y − y0`), so a proof needs the algebra of
Balch's decomposition, not composition.  Not modelled here: sin/cos/tanh/abs/powers (C05),
vertex and subinterval propagation (C13; they are NOT isotone in general — see the known findings).
-/
namespace Pun.Iso

section Intervals
open Pun Pun.Arith

/-! ## nested interval expressions -/

def ap : BinOp → Rat → Rat → Rat
  | .add, x, y => x + y
  | .sub, x, y => x - y
  | .mul, x, y => x * y
  | .div, x, y => x / y

def Mem (x : Rat) : Opd → Prop
  | .N c => x = c
  | .I a b => a ≤ x ∧ x ≤ b
  | _ => False

def Valid : Opd → Prop
  | .N _ => True
  | .I a b => a ≤ b
  | _ => False

def isN : Opd → Bool
  | .N _ => true
  | _ => false

def VSub : Opd → Opd → Prop
  | .N c, .N c' => c = c'
  | .I a b, .I a' b' => a' ≤ a ∧ b ≤ b'
  | _, _ => False

structure ExactImg (op : BinOp) (x y v : Opd) : Prop where
  valid : Valid v
  kind : isN v = (isN x && isN y)
  sound : ∀ p q, Mem p x → Mem q y → Mem (ap op p q) v
  lo : ∀ a b, v = .I a b → ∃ p q, Mem p x ∧ Mem q y ∧ ap op p q = a
  hi : ∀ a b, v = .I a b → ∃ p q, Mem p x ∧ Mem q y ∧ ap op p q = b
  pt : ∀ c, v = .N c → ∃ p q, Mem p x ∧ Mem q y ∧ ap op p q = c

theorem ExactImg.ofI {op : BinOp} {x y : Opd} {l h : Rat} (hk : (isN x && isN y) = false)
    (sound : ∀ p q, Mem p x → Mem q y → l ≤ ap op p q ∧ ap op p q ≤ h)
    (lo : ∃ p q, Mem p x ∧ Mem q y ∧ ap op p q = l) (hi : ∃ p q, Mem p x ∧ Mem q y ∧ ap op p q = h) :
    ExactImg op x y (.I l h) := by
  refine ⟨?_, hk.symm, sound, ?_, ?_, ?_⟩
  · obtain ⟨p, q, hp, hq, e⟩ := lo
    have := sound p q hp hq
    rw [e] at this
    exact le_trans this.1 this.2
  · rintro _ _ ⟨⟩; exact lo
  · rintro _ _ ⟨⟩; exact hi
  · rintro _ ⟨⟩

theorem ExactImg.of_IN {op : BinOp} {a b c l h : Rat} (hab : a ≤ b)
    (sound : ∀ x, a ≤ x → x ≤ b → l ≤ ap op x c ∧ ap op x c ≤ h)
    (ends : (l = ap op a c ∧ h = ap op b c) ∨ (l = ap op b c ∧ h = ap op a c)) : ExactImg op (.I a b) (.N c) (.I l h) := by
  have ma : Mem a (.I a b) := ⟨le_rfl, hab⟩
  have mb : Mem b (.I a b) := ⟨hab, le_rfl⟩
  refine .ofI rfl (fun p q hp hq => ?_) ?_ ?_
  · rw [show q = c from hq]; exact sound p hp.1 hp.2
  · rcases ends with ⟨e, _⟩ | ⟨e, _⟩
    · exact ⟨a, c, ma, rfl, e.symm⟩
    · exact ⟨b, c, mb, rfl, e.symm⟩
  · rcases ends with ⟨_, e⟩ | ⟨_, e⟩
    · exact ⟨b, c, mb, rfl, e.symm⟩
    · exact ⟨a, c, ma, rfl, e.symm⟩

theorem ExactImg.of_NI {op : BinOp} {a b c l h : Rat} (hab : a ≤ b)
    (sound : ∀ x, a ≤ x → x ≤ b → l ≤ ap op c x ∧ ap op c x ≤ h)
    (ends : (l = ap op c a ∧ h = ap op c b) ∨ (l = ap op c b ∧ h = ap op c a)) : ExactImg op (.N c) (.I a b) (.I l h) := by
  have ma : Mem a (.I a b) := ⟨le_rfl, hab⟩
  have mb : Mem b (.I a b) := ⟨hab, le_rfl⟩
  refine .ofI rfl (fun p q hp hq => ?_) ?_ ?_
  · rw [show p = c from hp]; exact sound q hq.1 hq.2
  · rcases ends with ⟨e, _⟩ | ⟨e, _⟩
    · exact ⟨c, a, rfl, ma, e.symm⟩
    · exact ⟨c, b, rfl, mb, e.symm⟩
  · rcases ends with ⟨_, e⟩ | ⟨_, e⟩
    · exact ⟨c, b, rfl, mb, e.symm⟩
    · exact ⟨c, a, rfl, ma, e.symm⟩

theorem spec_II (op : BinOp) (a b c d : Rat) (h1 : a ≤ b) (h2 : c ≤ d) (v : Opd)
    (h : ibin op (.I a b) (.I c d) = .ok v) : ExactImg op (.I a b) (.I c d) v := by
  change binop op (.I a b) (.I c d) = .ok v at h
  have ma : Mem a (.I a b) := ⟨le_rfl, h1⟩
  have mb : Mem b (.I a b) := ⟨h1, le_rfl⟩
  have mc : Mem c (.I c d) := ⟨le_rfl, h2⟩
  have md : Mem d (.I c d) := ⟨h2, le_rfl⟩
  -- the C01 theorems speak of `a ≤ x ∧ x ≤ b ∧ c ≤ y ∧ y ≤ d`
  have img : ∀ {f : Rat → Rat → Rat} {e : Rat}, (∃ x y, a ≤ x ∧ x ≤ b ∧ c ≤ y ∧ y ≤ d ∧ f x y = e) →
      ∃ p q, Mem p (.I a b) ∧ Mem q (.I c d) ∧ f p q = e :=
    fun ⟨x, y, k1, k2, k3, k4, k5⟩ => ⟨x, y, ⟨k1, k2⟩, ⟨k3, k4⟩, k5⟩
  cases op with
  | add =>
    rw [binop_II_add a b c d h1 h2] at h
    cases h
    exact .ofI rfl (fun p q hp hq => ⟨add_le_add hp.1 hq.1, add_le_add hp.2 hq.2⟩) ⟨a, c, ma, mc, rfl⟩ ⟨b, d, mb, md, rfl⟩
  | sub =>
    rw [binop_II_sub a b c d h1 h2] at h
    cases h
    exact .ofI rfl (fun p q hp hq => ⟨sub_le_sub hp.1 hq.2, sub_le_sub hp.2 hq.1⟩) ⟨a, d, ma, md, rfl⟩ ⟨b, c, mb, mc, rfl⟩
  | mul =>
    obtain ⟨l, hh, htab, hs, hlo, hhi⟩ := mul_exact_image a b c d h1 h2
    rw [mulTable_exact a b c d h1 h2] at htab
    cases htab
    rw [binop_II_mul a b c d h1 h2] at h
    cases h
    exact .ofI rfl (fun p q hp hq => hs p q hp.1 hp.2 hq.1 hq.2) (img hlo) (img hhi)
  | div =>
    by_cases hz : c ≤ 0 ∧ 0 ≤ d
    · rw [binop_II_div_zero a b c d hz] at h; cases h
    · have h0 := not_straddle_cases hz
      obtain ⟨l, hh, e', hs, hlo, hhi⟩ := binop_II_div a b c d h1 h2 h0
      rw [e'] at h
      cases h
      exact .ofI rfl (fun p q hp hq => hs p q hp.1 hp.2 hq.1 hq.2) (img hlo) (img hhi)

theorem exactImg_num (op : BinOp) (x y : Rat) : ExactImg op (.N x) (.N y) (.N (ap op x y)) := by
  refine ⟨trivial, rfl, ?_, ?_, ?_, ?_⟩
  · rintro p q rfl rfl; rfl
  · rintro _ _ ⟨⟩
  · rintro _ _ ⟨⟩
  · rintro _ ⟨⟩; exact ⟨x, y, rfl, rfl, rfl⟩

theorem spec_NN (op : BinOp) (x y : Rat) (v : Opd) (h : ibin op (.N x) (.N y) = .ok v) :
    ExactImg op (.N x) (.N y) v := by
  have e : ibin op (.N x) (.N y) = .ok v → v = .N (ap op x y) := by
    cases op <;> simp only [ibin, numBin, ap]
    · rintro ⟨⟩; rfl
    · rintro ⟨⟩; rfl
    · rintro ⟨⟩; rfl
    · split
      · rintro ⟨⟩
      · rintro ⟨⟩; rfl
  rw [e h]
  exact exactImg_num op x y

theorem binop_IN (op : BinOp) (a b c : Rat) : binop op (.I a b) (.N c) = forward op (IV.ofI a b) (.N c) := by
  simp [binop, opdIV]

theorem binop_NI (op : BinOp) (a b c : Rat) : binop op (.N c) (.I a b) = reflected op (.N c) (IV.ofI a b) := by
  simp [binop, opdIV]

theorem spec_IN (op : BinOp) (a b c : Rat) (h1 : a ≤ b) (v : Opd)
    (h : ibin op (.I a b) (.N c) = .ok v) : ExactImg op (.I a b) (.N c) v := by
  change binop op (.I a b) (.N c) = .ok v at h
  rw [binop_IN] at h
  cases op with
  | add =>
    have : forward .add (IV.ofI a b) (.N c) = .ok (.I (a + c) (b + c)) := by
      simp [forward, IV.ofI, mkIV, h1]
    rw [this] at h; cases h
    exact .of_IN h1 (fun x k1 k2 => ⟨add_le_add k1 le_rfl, add_le_add k2 le_rfl⟩) (Or.inl ⟨rfl, rfl⟩)
  | sub =>
    have : forward .sub (IV.ofI a b) (.N c) = .ok (.I (a - c) (b - c)) := by
      simp [forward, IV.ofI, mkIV, h1]
    rw [this] at h; cases h
    exact .of_IN h1 (fun x k1 k2 => ⟨sub_le_sub_right k1 c, sub_le_sub_right k2 c⟩) (Or.inl ⟨rfl, rfl⟩)
  | mul =>
    obtain ⟨l, hh, e', hs, hends⟩ := mulNum_exact a b c h1
    change mulNum (IV.ofI a b) c = .ok v at h
    rw [e'] at h; cases h
    exact .of_IN h1 hs hends
  | div =>
    change divNum (IV.ofI a b) c = .ok v at h
    by_cases hc0 : c = 0
    · rw [hc0, divNum_zero_raises] at h; cases h
    · obtain ⟨l, hh, e', hs, hends⟩ := divNum_exact a b c h1 hc0
      rw [e'] at h; cases h
      exact .of_IN h1 hs hends

theorem spec_NI (op : BinOp) (a b c : Rat) (h1 : a ≤ b) (v : Opd)
    (h : ibin op (.N c) (.I a b) = .ok v) : ExactImg op (.N c) (.I a b) v := by
  change binop op (.N c) (.I a b) = .ok v at h
  rw [binop_NI] at h
  cases op with
  | add =>
    have : reflected .add (.N c) (IV.ofI a b) = .ok (.I (a + c) (b + c)) := by
      simp [reflected, forward, IV.ofI, mkIV, h1]
    rw [this] at h; cases h
    exact .of_NI h1 (fun x k1 k2 => by simp only [ap, add_comm c]; exact ⟨add_le_add k1 le_rfl, add_le_add k2 le_rfl⟩)
      (Or.inl ⟨add_comm a c, add_comm b c⟩)
  | sub =>
    obtain ⟨e', hs⟩ := rsub_exact a b c h1
    rw [e'] at h; cases h
    exact .of_NI h1 hs (Or.inr ⟨rfl, rfl⟩)
  | mul =>
    obtain ⟨l, hh, e', hs, hends⟩ := mulNum_exact a b c h1
    change mulNum (IV.ofI a b) c = .ok v at h
    rw [e'] at h; cases h
    exact .of_NI h1 (fun x k1 k2 => by simp only [ap, mul_comm c]; exact hs x k1 k2) (by simpa only [ap, mul_comm c] using hends)
  | div =>
    by_cases hz : a ≤ 0 ∧ 0 ≤ b
    · rw [rdiv_straddle_raises a b c hz] at h; cases h
    · have h0 := not_straddle_cases hz
      obtain ⟨l, hh, e', hs, hends⟩ := rdiv_exact a b c h1 h0
      rw [e'] at h; cases h
      exact .of_NI h1 hs hends.symm

theorem ibin_spec (op : BinOp) (x y v : Opd) (vx : Valid x) (vy : Valid y) (h : ibin op x y = .ok v) :
    ExactImg op x y v := by
  cases x with
  | N c =>
    cases y with
    | N d => exact spec_NN op c d v h
    | I a b => exact spec_NI op a b c vy v h
    | _ => exact vy.elim
  | I a b =>
    cases y with
    | N d => exact spec_IN op a b d vx v h
    | I c d => exact spec_II op a b c d vx vy v h
    | _ => exact vy.elim
  | _ => exact vx.elim

theorem Mem_of_VSub {x x' : Opd} (h : VSub x x') (p : Rat) (hp : Mem p x) : Mem p x' := by
  cases x with
  | N c =>
    cases x' with
    | N c' => exact hp.trans h
    | _ => exact h.elim
  | I a b =>
    cases x' with
    | I a' b' => exact ⟨le_trans h.1 hp.1, le_trans hp.2 h.2⟩
    | _ => exact h.elim
  | _ => exact hp.elim

theorem isN_of_VSub {x x' : Opd} (h : VSub x x') : isN x = isN x' := by
  cases x <;> cases x' <;> first | rfl | exact h.elim

/-- **one interval operation is inclusion isotone** (when both runs are defined): exact image ⇒ isotone -/
theorem ibin_iso (op : BinOp) {x x' y y' v v' : Opd} (vx : Valid x) (vx' : Valid x') (vy : Valid y) (vy' : Valid y')
    (hx : VSub x x') (hy : VSub y y') (h : ibin op x y = .ok v) (h' : ibin op x' y' = .ok v') :
    VSub v v' ∧ Valid v ∧ Valid v' := by
  have S := ibin_spec op x y v vx vy h
  have S' := ibin_spec op x' y' v' vx' vy' h'
  refine ⟨?_, S.valid, S'.valid⟩
  have hk : isN v = isN v' := by rw [S.kind, S'.kind, isN_of_VSub hx, isN_of_VSub hy]
  -- whatever the narrower run attains is a value of the wider run
  have key : ∀ p q, Mem p x → Mem q y → Mem (ap op p q) v' := fun p q hp hq =>
    S'.sound p q (Mem_of_VSub hx p hp) (Mem_of_VSub hy q hq)
  cases v with
  | N c =>
    cases v' with
    | N c' =>
      obtain ⟨p, q, hp, hq, e⟩ := S.pt c rfl
      exact e ▸ key p q hp hq
    | I a' b' => cases hk
    | _ => exact S'.valid.elim
  | I a b =>
    cases v' with
    | N c' => cases hk
    | I a' b' =>
      obtain ⟨p, q, hp, hq, e⟩ := S.lo a b rfl
      obtain ⟨p2, q2, hp2, hq2, e2⟩ := S.hi a b rfl
      exact ⟨(e ▸ key p q hp hq).1, (e2 ▸ key p2 q2 hp2 hq2).2⟩
    | _ => exact S'.valid.elim
  | _ => exact S.valid.elim

theorem ineg_iso {x x' v v' : Opd} (vx : Valid x) (vx' : Valid x') (hx : VSub x x')
    (h : ineg x = .ok v) (h' : ineg x' = .ok v') : VSub v v' ∧ Valid v ∧ Valid v' := by
  cases x with
  | N c =>
    cases x' with
    | N c' =>
      cases h; cases h'
      exact ⟨congrArg (- ·) hx, trivial, trivial⟩
    | _ => exact hx.elim
  | I a b =>
    cases x' with
    | I a' b' =>
      have e : ∀ {a b : Rat}, a ≤ b → ineg (.I a b) = .ok (.I (-b) (-a)) := fun hab => by
        simp [ineg, Arith.neg, mkIV, hab]
      rw [e vx] at h; rw [e vx'] at h'
      cases h; cases h'
      exact ⟨⟨neg_le_neg hx.2, neg_le_neg hx.1⟩, neg_le_neg vx, neg_le_neg vx'⟩
    | _ => exact hx.elim
  | _ => exact vx.elim

def BoxSub (box box' : List (Rat × Rat)) : Prop :=
  List.Forall₂ (fun p p' => p'.1 ≤ p.1 ∧ p.2 ≤ p'.2) box box'

def BoxValid (box : List (Rat × Rat)) : Prop := ∀ p ∈ box, p.1 ≤ p.2

theorem bind_rel {α β : Type} {P : α → α → Prop} {Q : β → β → Prop} {a a' : Except Err α} {f f' : α → Except Err β}
    (h : ∀ x x', a = .ok x → a' = .ok x' → P x x')
    (hf : ∀ x x', P x x' → ∀ y y', f x = .ok y → f' x' = .ok y' → Q y y') :
    ∀ y y', (a >>= f) = .ok y → (a' >>= f') = .ok y' → Q y y' := by
  intro y y' e e'
  obtain ⟨x, ex, e2⟩ := bind_ok_inv e
  obtain ⟨x', ex', e2'⟩ := bind_ok_inv e'
  exact hf x x' (h x x' ex ex') y y' e2 e2'

/-- **a nested interval expression of any depth is inclusion isotone** (`iso_expr` of DESIGN-round0.md):
whenever both evaluations return, the value for the sub-box is contained in the value for the box -/
theorem itree_iso (t : ITree) {box box' : List (Rat × Rat)} (hv : BoxValid box) (hv' : BoxValid box')
    (hb : BoxSub box box') : ∀ v v', t.eval box = .ok v → t.eval box' = .ok v' → VSub v v' ∧ Valid v ∧ Valid v' := by
  induction t with
  | var i =>
    intro v v' h h'
    simp only [ITree.eval] at h h'
    cases hp : box[i]? with
    | none => simp [hp] at h
    | some p =>
      obtain ⟨p', hp', hs⟩ := forall₂_getElem? hb hp
      rw [hp] at h; rw [hp'] at h'
      cases h; cases h'
      exact ⟨hs, hv p (List.mem_of_getElem? hp), hv' p' (List.mem_of_getElem? hp')⟩
  | num c =>
    rintro v v' ⟨⟩ ⟨⟩
    exact ⟨rfl, trivial, trivial⟩
  | bin op a b iha ihb =>
    simp only [ITree.eval]
    exact bind_rel iha fun x x' ⟨sx, vx, vx'⟩ => bind_rel ihb fun y y' ⟨sy, vy, vy'⟩ v v' h h' =>
      ibin_iso op vx vx' vy vy' sx sy h h'
  | neg a iha =>
    simp only [ITree.eval]
    exact bind_rel iha fun x x' ⟨sx, vx, vx'⟩ v v' h h' => ineg_iso vx vx' sx h h'

/-- `Interval(f(lo), f(hi))` for an increasing unary map `φ` (exp, sqrt, log on their domain) -/
theorem ivUnary_iso (φ : Rat → Rat) (hφ : ∀ x y, x ≤ y → φ x ≤ φ y) (a b a' b' : Rat) (hab : a ≤ b)
    (ha : a' ≤ a) (hb : b ≤ b') :
    ivUnary (φ a) (φ b) = .ok (.I (φ a) (φ b)) ∧ ivUnary (φ a') (φ b') = .ok (.I (φ a') (φ b')) ∧
    VSub (.I (φ a) (φ b)) (.I (φ a') (φ b')) := by
  have h1 : φ a ≤ φ b := hφ _ _ hab
  have h2 : φ a' ≤ φ b' := hφ _ _ (le_trans ha (le_trans hab hb))
  exact ⟨by simp [ivUnary, mkIV, h1], by simp [ivUnary, mkIV, h2], hφ _ _ ha, hφ _ _ hb⟩

/-! non-vacuity: `x0*x0 + x1` on a box and a sub-box (repeated variable, sign change inside) -/
def isIvl (r : Except Err Opd) (l h : Rat) : Bool :=
  match r with
  | .ok (.I a b) => decide (a = l) && decide (b = h)
  | _ => false

example : isIvl ((ITree.bin .add (.bin .mul (.var 0) (.var 0)) (.var 1)).eval [(-1, 2), (0, 1)]) (-2) 5 = true := by
  decide +kernel
example : isIvl ((ITree.bin .add (.bin .mul (.var 0) (.var 0)) (.var 1)).eval [(0, 1), (1/2, 1/2)]) (1/2) (3/2) = true := by
  decide +kernel
example : BoxSub [(0, 1), (1/2, 1/2)] [(-1, 2), (0, 1)] :=
  List.Forall₂.cons ⟨by norm_num, by norm_num⟩ (List.Forall₂.cons ⟨by norm_num, by norm_num⟩ List.Forall₂.nil)
example : binop .div (.I 1 2) (.I (-1) 1) = .error .ZeroDivision := binop_II_div_zero 1 2 (-1) 1 (by norm_num)

end Intervals

section PBoxes
open Pun List Pun.PBox

def IsoRes (n : Nat) (r r' : Except Err PB) : Prop :=
  ∃ R R', r = .ok R ∧ r' = .ok R' ∧ PSub R R' ∧ WF n R ∧ WF n R'

theorem add_isoRes (n : Nat) (d : Dep) (hd : d ≠ .unknown) {X X' Y Y' : PB}
    (wX : WF n X) (wX' : WF n X') (wY : WF n Y) (wY' : WF n Y') (hX : PSub X X') (hY : PSub Y Y') :
    IsoRes n (add n d X Y) (add n d X' Y') := add_iso n d hd wX wX' wY wY' hX hY

/-- **`X.mul(Y, dependency)` is isotone under perfect, opposite and independent dependence**, all signs -/
theorem mul_iso_poi (n : Nat) (d : Dep) (hd : d = .p ∨ d = .o ∨ d = .i) {X X' Y Y' : PB}
    (wX : WF n X) (wX' : WF n X') (wY : WF n Y) (wY' : WF n Y') (hX : PSub X X') (hY : PSub Y Y') :
    IsoRes n (mul n d X Y) (mul n d X' Y') := by
  rcases hd with rfl | rfl | rfl
  · exact mk_iso (Or.inl rfl) false (perfectOp_facts _ n wX wY) (perfectOp_facts _ n wX' wY')
      (iso_perfectOp _ hull_mul wX.valid wY.valid hX hY) rfl rfl
  · exact mk_iso (Or.inl rfl) false (oppositeOp_facts _ n wX wY) (oppositeOp_facts _ n wX' wY')
      (iso_oppositeOp _ hull_mul wX.valid wY.valid hX hY) rfl rfl
  · exact mk_iso (sq_cases n) false (independentOp_facts _ n wX wY) (independentOp_facts _ n wX' wY')
      (iso_independentOp _ hull_mul wX.valid wY.valid hX hY) rfl rfl

/-! ### negation, subtraction -/

theorem neg_anti : ∀ x y : Rat, x ≤ y → -y ≤ -x := fun _ _ h => neg_le_neg h

theorem neg_iso (n : Nat) {X X' : PB} (wX : WF n X) (wX' : WF n X') (hX : PSub X X') :
    IsoRes n (neg n X) (neg n X') :=
  ⟨_, _, Num.neg_ok n X wX.num, Num.neg_ok n X' wX'.num,
    ⟨LE.map_anti neg_anti hX.2.reverse, LE.map_anti neg_anti hX.1.reverse⟩,
    .of_num (Num.neg_wf n X wX.num), .of_num (Num.neg_wf n X' wX'.num)⟩

/-- **`X.sub(Y, dependency)` is isotone** under every dependency (`-Y`, then `add` with `p ↔ o` swapped) -/
theorem sub_iso (n : Nat) (d : Dep) (hd : d ≠ .unknown) {X X' Y Y' : PB}
    (wX : WF n X) (wX' : WF n X') (wY : WF n Y) (wY' : WF n Y') (hX : PSub X X') (hY : PSub Y Y') :
    IsoRes n (sub n d X Y) (sub n d X' Y') := by
  obtain ⟨N, N', e, e', hN, wN, wN'⟩ := neg_iso n wY wY' hY
  simp only [sub, e, e', bind, Except.bind]
  exact add_iso n (swapPO d) (swapPO_ne_unknown d hd) wX wX' wN wN' hX hN

/-! ### a real number as the other operand -/

theorem numberOp_iso_mono (n : Nat) (f : Rat → Rat → Rat) (c : Rat) (hf : ∀ x y, x ≤ y → f x c ≤ f y c)
    {X X' : PB} (wX : WF n X) (wX' : WF n X') (hX : PSub X X') :
    IsoRes n (numberOp n f X c) (numberOp n f X' c) :=
  have w : ∀ {P : PB}, WF n P → WF n ⟨P.left.map (f · c), P.right.map (f · c)⟩ := fun wP =>
    .of_num (Num.wf_map_mono n _ wP.num (f · c) (fun _ => True) (fun _ _ => trivial) (fun _ _ => trivial)
      fun _ _ _ _ h => hf _ _ h)
  ⟨_, _, Num.numberOp_monotone n f X c wX.num fun _ _ h => hf _ _ h,
    Num.numberOp_monotone n f X' c wX'.num fun _ _ h => hf _ _ h, ⟨LE.map hf hX.1, LE.map hf hX.2⟩, w wX, w wX'⟩

/-- a decreasing map of the bounds: the constructor switches the two lists -/
theorem numberOp_iso_anti (n : Nat) (f : Rat → Rat → Rat) (c : Rat) (hf : ∀ x y, x ≤ y → f y c ≤ f x c)
    {X X' : PB} (wX : WF n X) (wX' : WF n X') (hX : PSub X X') :
    IsoRes n (numberOp n f X c) (numberOp n f X' c) :=
  have w : ∀ {P : PB}, WF n P → WF n ⟨P.right.reverse.map (f · c), P.left.reverse.map (f · c)⟩ := fun wP =>
    .of_num (Num.wf_map_anti n _ wP.num (f · c) (fun _ => True) (fun _ _ => trivial) (fun _ _ => trivial)
      fun _ _ _ _ h => hf _ _ h)
  ⟨_, _, Num.numberOp_antitone n f X c wX.num fun _ _ h => hf _ _ h,
    Num.numberOp_antitone n f X' c wX'.num fun _ _ h => hf _ _ h,
    ⟨LE.map_anti hf hX.2.reverse, LE.map_anti hf hX.1.reverse⟩, w wX, w wX'⟩

theorem numberOp_mul_iso (n : Nat) (c : Rat) {X X' : PB} (wX : WF n X) (wX' : WF n X') (hX : PSub X X') :
    IsoRes n (numberOp n (· * ·) X c) (numberOp n (· * ·) X' c) := by
  rcases le_total 0 c with h | h
  · exact numberOp_iso_mono n _ c (fun x y hxy => mul_le_mul_of_nonneg_right hxy h) wX wX' hX
  · exact numberOp_iso_anti n _ c (fun x y hxy => mul_le_mul_of_nonpos_right hxy h) wX wX' hX

/-- **`X op c` is isotone** for `+ − ×` and for `÷` by a non-zero number -/
theorem numRight_iso (n : Nat) (o : Op) (c : Rat) (hc : o = .div → c ≠ 0) {X X' : PB}
    (wX : WF n X) (wX' : WF n X') (hX : PSub X X') : IsoRes n (numRight n o X c) (numRight n o X' c) := by
  cases o with
  | add => exact numberOp_iso_mono n _ c (fun x y h => add_le_add h le_rfl) wX wX' hX
  | sub => exact numberOp_iso_mono n _ (-c) (fun x y h => add_le_add h le_rfl) wX wX' hX
  | mul => exact numberOp_mul_iso n c wX wX' hX
  | div =>
    simp only [numRight, hc rfl, if_false]
    exact numberOp_mul_iso n (1 / c) wX wX' hX

/-- **`c op X` is isotone** for `+ − ×` -/
theorem numLeft_iso (n : Nat) (o : Op) (c : Rat) (ho : o ≠ .div) {X X' : PB}
    (wX : WF n X) (wX' : WF n X') (hX : PSub X X') : IsoRes n (numLeft n o c X) (numLeft n o c X') := by
  cases o with
  | add => exact numberOp_iso_mono n _ c (fun x y h => add_le_add h le_rfl) wX wX' hX
  | sub =>
    obtain ⟨N, N', e, e', hN, wN, wN'⟩ := neg_iso n wX wX' hX
    simp only [numLeft, e, e', bind, Except.bind]
    exact numberOp_iso_mono n (· + ·) c (fun x y h => add_le_add h le_rfl) wN wN' hN
  | mul => exact numberOp_mul_iso n c wX wX' hX
  | div => exact absurd rfl ho

/-! ### unary maps, envelope, imposition -/

/-- **`_unary_template(f)` with an increasing `f`** (exp, sqrt, log on their domains) -/
theorem unary_iso (n : Nat) (φ : Rat → Rat) (hφ : ∀ x y, x ≤ y → φ x ≤ φ y) {X X' : PB}
    (wX : WF n X) (wX' : WF n X') (hX : PSub X X') :
    IsoRes n (unaryTemplate n (X.left.map φ) (X.right.map φ)) (unaryTemplate n (X'.left.map φ) (X'.right.map φ)) := by
  have facts : ∀ {P : PB}, WF n P → RuleFacts n (P.left.map φ, P.right.map φ) := fun wP =>
    ⟨by simp [wP.llen], by simp [wP.rlen], wP.lsorted.map φ hφ, wP.rsorted.map φ hφ, LE.map hφ wP.valid⟩
  exact mk_iso (Or.inl rfl) false (facts wX) (facts wX') ⟨LE.map hφ hX.1, LE.map hφ hX.2⟩ rfl rfl

theorem env_iso (n : Nat) {X X' Y Y' : PB} (wX : WF n X) (wX' : WF n X') (wY : WF n Y) (wY' : WF n Y')
    (hX : PSub X X') (hY : PSub Y Y') : IsoRes n (env n X Y) (env n X' Y') := by
  have facts : ∀ {P Q : PB}, WF n P → WF n Q →
      RuleFacts n (List.zipWith min P.left Q.left, List.zipWith max P.right Q.right) := fun wP wQ =>
    ⟨by simp [wP.llen, wQ.llen], by simp [wP.rlen, wQ.rlen], zipWith_sorted min min_mono2 _ _ wP.lsorted wQ.lsorted,
      zipWith_sorted max max_mono2 _ _ wP.rsorted wQ.rsorted,
      forall₂_zipWith wP.valid wQ.valid fun _ _ _ _ h _ => le_trans (min_le_left _ _) (le_trans h (le_max_left _ _))⟩
  exact mk_iso (Or.inl rfl) false (facts wX wY) (facts wX' wY')
    ⟨LE.zipWith min_mono2 hX.1 hY.1, LE.zipWith max_mono2 hX.2 hY.2⟩ rfl rfl

/-- **imposition is isotone**: when the narrower operands have an imposition, so do the wider ones, and it contains it -/
theorem imp_iso (n : Nat) {X X' Y Y' : PB} (wX : WF n X) (wX' : WF n X') (wY : WF n Y) (wY' : WF n Y')
    (hX : PSub X X') (hY : PSub Y Y') (R : PB) (h : imp n X Y = .ok R) :
    IsoRes n (imp n X Y) (imp n X' Y') := by
  -- compatible operands pass the guard of `imp`; what is left is the constructor
  have key : ∀ {P Q : PB}, WF n P → WF n Q → LE (List.zipWith max P.left Q.left) (List.zipWith min P.right Q.right) →
      imp n P Q = mk n true (List.zipWith max P.left Q.left) (List.zipWith min P.right Q.right) ∧
      RuleFacts n (List.zipWith max P.left Q.left, List.zipWith min P.right Q.right) := fun wP wQ hle =>
    ⟨by simp only [imp, no_cross_of_le hle, Bool.false_eq_true, if_false],
      by simp [wP.llen, wQ.llen], by simp [wP.rlen, wQ.rlen], zipWith_sorted max max_mono2 _ _ wP.lsorted wQ.lsorted,
      zipWith_sorted min min_mono2 _ _ wP.rsorted wQ.rsorted, hle⟩
  -- the narrower pair is compatible because its imposition exists
  have hc : LE (List.zipWith max X.left Y.left) (List.zipWith min X.right Y.right) := by
    apply (cross_false_iff (by simp [wX.llen, wY.llen, wX.rlen, wY.rlen])).mp
    by_contra hne
    simp only [imp, Bool.not_eq_false] at h hne
    simp [hne] at h
  have hc' : LE (List.zipWith max X'.left Y'.left) (List.zipWith min X'.right Y'.right) :=
    LE.trans (LE.zipWith max_mono2 hX.1 hY.1) (LE.trans hc (LE.zipWith min_mono2 hX.2 hY.2))
  exact mk_iso (Or.inl rfl) true (key wX wY hc).2 (key wX' wY' hc').2
    ⟨LE.zipWith max_mono2 hX.1 hY.1, LE.zipWith min_mono2 hX.2 hY.2⟩ (key wX wY hc).1 (key wX' wY' hc').1

/-! ### nested p-box expressions -/

/-- the nodes whose isotonicity is proved for ALL well-formed operands -/
def PTree.Proven : PTree → Prop
  | .var _ => True
  | .bin o d a b => (((o = .add ∨ o = .sub) ∧ d ≠ .unknown) ∨ (o = .mul ∧ (d = .p ∨ d = .o ∨ d = .i))) ∧ a.Proven ∧ b.Proven
  | .numR o a c => (o = .div → c ≠ 0) ∧ a.Proven
  | .numL o _ a => o ≠ .div ∧ a.Proven
  | .neg a => a.Proven
  | .env a b => a.Proven ∧ b.Proven
  | .imp a b => a.Proven ∧ b.Proven

def Follows (n : Nat) (r r' : Except Err PB) : Prop :=
  ∀ R, r = .ok R → ∃ R', r' = .ok R' ∧ PSub R R' ∧ WF n R ∧ WF n R'

theorem IsoRes.follows {n : Nat} {r r' : Except Err PB} (h : IsoRes n r r') : Follows n r r' := by
  obtain ⟨R0, R0', e0, e0', hs, w, w'⟩ := h
  intro R e
  cases e0.symm.trans e
  exact ⟨R0', e0', hs, w, w'⟩

theorem Follows.bind {n : Nat} {a a' : Except Err PB} {f f' : PB → Except Err PB} (h : Follows n a a')
    (hf : ∀ x x', PSub x x' → WF n x → WF n x' → Follows n (f x) (f' x')) : Follows n (a >>= f) (a' >>= f') := by
  intro R e
  obtain ⟨x, ex, e2⟩ := bind_ok_inv e
  obtain ⟨x', ex', sx, wx, wx'⟩ := h x ex
  rw [ex']
  exact hf x x' sx wx wx' R e2

/-- **nested p-box expressions of any depth are isotone** over the nodes of `PTree.Proven`: if the run on the
contained operands returns, so does the run on the containing ones, and its result contains it -/
theorem ptree_iso_partial (n : Nat) (t : PTree) (ht : t.Proven) {vars vars' : List PB}
    (h : List.Forall₂ PSub vars vars') (hw : ∀ P ∈ vars, WF n P) (hw' : ∀ P ∈ vars', WF n P) :
    ∀ R, t.eval n vars = .ok R → ∃ R', t.eval n vars' = .ok R' ∧ PSub R R' ∧ WF n R ∧ WF n R' := by
  induction t with
  | var i =>
    intro R e
    simp only [PTree.eval] at e ⊢
    cases hp : vars[i]? with
    | none => simp [hp] at e
    | some P =>
      obtain ⟨P', hp', hs⟩ := forall₂_getElem? h hp
      rw [hp] at e
      cases e
      exact ⟨P', by rw [hp'], hs, hw _ (List.mem_of_getElem? hp), hw' P' (List.mem_of_getElem? hp')⟩
  | bin o d a b iha ihb =>
    refine Follows.bind (iha ht.2.1) fun x x' sx wx wx' => Follows.bind (ihb ht.2.2) fun y y' sy wy wy' => IsoRes.follows ?_
    rcases ht.1 with ⟨rfl | rfl, hd⟩ | ⟨rfl, hd⟩
    · exact add_iso n d hd wx wx' wy wy' sx sy
    · exact sub_iso n d hd wx wx' wy wy' sx sy
    · exact mul_iso_poi n d hd wx wx' wy wy' sx sy
  | numR o a c iha =>
    exact Follows.bind (iha ht.2) fun x x' sx wx wx' => (numRight_iso n o c ht.1 wx wx' sx).follows
  | numL o c a iha =>
    exact Follows.bind (iha ht.2) fun x x' sx wx wx' => (numLeft_iso n o c ht.1 wx wx' sx).follows
  | neg a iha =>
    exact Follows.bind (iha ht) fun x x' sx wx wx' => (neg_iso n wx wx' sx).follows
  | env a b iha ihb =>
    exact Follows.bind (iha ht.1) fun x x' sx wx wx' => Follows.bind (ihb ht.2) fun y y' sy wy wy' =>
      (env_iso n wx wx' wy wy' sx sy).follows
  | imp a b iha ihb =>
    exact Follows.bind (iha ht.1) fun x x' sx wx wx' => Follows.bind (ihb ht.2) fun y y' sy wy wy' R e =>
      (imp_iso n wx wx' wy wy' sx sy R e).follows R e

/-! non-vacuity: two-step operands, a strict widening, every dependency computes -/
example : WF 2 ⟨[1, 2], [2, 4]⟩ := ⟨rfl, rfl, by decide, by decide, by decide⟩
example : PSub ⟨[1, 2], [2, 4]⟩ ⟨[0, 2], [3, 5]⟩ := by constructor <;> decide
example : IsoRes 2 (add 2 .f ⟨[1, 2], [2, 4]⟩ ⟨[-1, 0], [0, 3]⟩) (add 2 .f ⟨[0, 2], [3, 5]⟩ ⟨[-1, 0], [0, 3]⟩) :=
  add_iso 2 .f (by simp) ⟨rfl, rfl, by decide, by decide, by decide⟩ ⟨rfl, rfl, by decide, by decide, by decide⟩
    ⟨rfl, rfl, by decide, by decide, by decide⟩ ⟨rfl, rfl, by decide, by decide, by decide⟩
    (by constructor <;> decide) (PSub.refl _)
example : IsoRes 2 (mul 2 .o ⟨[1, 2], [2, 4]⟩ ⟨[-1, 0], [0, 3]⟩) (mul 2 .o ⟨[0, 2], [3, 5]⟩ ⟨[-1, 0], [0, 3]⟩) :=
  mul_iso_poi 2 .o (Or.inr (Or.inl rfl)) ⟨rfl, rfl, by decide, by decide, by decide⟩ ⟨rfl, rfl, by decide, by decide, by decide⟩
    ⟨rfl, rfl, by decide, by decide, by decide⟩ ⟨rfl, rfl, by decide, by decide, by decide⟩
    (by constructor <;> decide) (PSub.refl _)
example : (PTree.bin .sub .p (.env (.var 0) (.var 1)) (.numR .mul (.var 1) (-2))).Proven := by
  simp [PTree.Proven]

end PBoxes

section Recip
open Pun List Pun.PBox

/-! ### reciprocal and division (divisor of one sign) -/

theorem LE.map_anti_on {f : Rat → Rat} (p : Rat → Prop) (hf : ∀ x y, p x → p y → x ≤ y → f y ≤ f x)
    {l l' : List Rat} (h : LE l l') (hl : ∀ x ∈ l, p x) (hl' : ∀ x ∈ l', p x) : LE (l'.map f) (l.map f) := by
  induction h with
  | nil => exact .nil
  | @cons a b s t hab _ ih =>
    rw [List.forall_mem_cons] at hl hl'
    exact .cons (hf _ _ hl.1 hl'.1 hab) (ih hl.2 hl'.2)

structure SignP (p : Rat → Prop) : Prop where
  anti : ∀ x y, p x → p y → x ≤ y → 1 / y ≤ 1 / x
  ne0 : ∀ x, p x → x ≠ 0

theorem signP_pos : SignP (fun x => 0 < x) :=
  ⟨fun _ _ hx _ hxy => one_div_le_one_div_of_le hx hxy, fun _ hx => ne_of_gt hx⟩

theorem signP_neg : SignP (fun x => x < 0) :=
  ⟨fun _ _ hx hy hxy => (one_div_le_one_div_of_neg hy hx).mpr hxy, fun _ hx => ne_of_lt hx⟩

theorem recip_wf (n : Nat) (p : Rat → Prop) (sp : SignP p) {X : PB} (wX : WF n X)
    (hl : ∀ v ∈ X.left, p v) (hr : ∀ v ∈ X.right, p v) :
    WF n ⟨X.right.reverse.map (1 / ·), X.left.reverse.map (1 / ·)⟩ :=
  .of_num (Num.wf_map_anti n X wX.num (1 / ·) p hl hr sp.anti)

theorem recip_ok (n : Nat) (p : Rat → Prop) (sp : SignP p) {X : PB} (wX : WF n X)
    (hl : ∀ v ∈ X.left, p v) (hr : ∀ v ∈ X.right, p v) :
    recip n X = .ok ⟨X.right.reverse.map (1 / ·), X.left.reverse.map (1 / ·)⟩ :=
  Num.recip_ok n X wX.num p hl hr sp.ne0 sp.anti

theorem mem_of_LE_left {l l' : List Rat} (h : LE l' l) (p : Rat → Prop) (hp : ∀ x y, p x → x ≤ y → p y)
    (hl' : ∀ v ∈ l', p v) : ∀ v ∈ l, p v := by
  induction h with
  | nil => simp
  | @cons a b s t hab _ ih =>
    rw [List.forall_mem_cons] at hl' ⊢
    exact ⟨hp a _ hl'.1 hab, ih hl'.2⟩

/-- **the reciprocal is isotone** for operands of one sign -/
theorem recip_iso (n : Nat) (p : Rat → Prop) (sp : SignP p) {X X' : PB} (wX : WF n X) (wX' : WF n X')
    (hX : PSub X X') (hl : ∀ v ∈ X.left, p v) (hr : ∀ v ∈ X.right, p v) (hl' : ∀ v ∈ X'.left, p v)
    (hr' : ∀ v ∈ X'.right, p v) : IsoRes n (recip n X) (recip n X') :=
  ⟨_, _, recip_ok n p sp wX hl hr, recip_ok n p sp wX' hl' hr',
    ⟨LE.map_anti_on p sp.anti hX.2.reverse (fun x hx => hr x (List.mem_reverse.mp hx))
      (fun x hx => hr' x (List.mem_reverse.mp hx)),
     LE.map_anti_on p sp.anti hX.1.reverse (fun x hx => hl' x (List.mem_reverse.mp hx))
      (fun x hx => hl x (List.mem_reverse.mp hx))⟩,
    recip_wf n p sp wX hl hr, recip_wf n p sp wX' hl' hr'⟩

theorem numberOp_one (n : Nat) {P : PB} (wP : WF n P) : numberOp n (· * ·) P 1 = .ok P := by
  simp only [numberOp, mul_one, List.map_id', sortR_of_sorted _ wP.lsorted, sortR_of_sorted _ wP.rsorted]
  exact mk_ok_of_le n true _ _ wP.llen wP.rlen wP.lsorted wP.rsorted wP.valid

theorem div_eq (n : Nat) (d : Dep) (X : PB) {Y r : PB} (wr : WF n r) (e : recip n Y = .ok r) :
    div n d X Y = mul n (swapPO d) X r := by
  simp only [div, e, bind, Except.bind, numberOp_one n wr]

/-- **`X.div(Y, dependency)` is isotone under perfect, opposite and independent dependence** for a divisor of one
sign: reciprocal, `1 * (1/Y)`, then the product under the swapped dependency -/
theorem div_iso_poi (n : Nat) (d : Dep) (hd : d = .p ∨ d = .o ∨ d = .i) (p : Rat → Prop) (sp : SignP p)
    {X X' Y Y' : PB} (wX : WF n X) (wX' : WF n X') (wY : WF n Y) (wY' : WF n Y') (hX : PSub X X') (hY : PSub Y Y')
    (hl : ∀ v ∈ Y.left, p v) (hr : ∀ v ∈ Y.right, p v) (hl' : ∀ v ∈ Y'.left, p v) (hr' : ∀ v ∈ Y'.right, p v) :
    IsoRes n (div n d X Y) (div n d X' Y') := by
  obtain ⟨r, r', e, e', hr0, wr, wr'⟩ := recip_iso n p sp wY wY' hY hl hr hl' hr'
  have hd' : swapPO d = .p ∨ swapPO d = .o ∨ swapPO d = .i := by
    rcases hd with rfl | rfl | rfl <;> simp [swapPO]
  rw [div_eq n d X wr e, div_eq n d X' wr' e']
  exact mul_iso_poi n (swapPO d) hd' wX wX' wr wr' hX hr0

example : IsoRes 2 (div 2 .p ⟨[1, 2], [2, 4]⟩ ⟨[1, 2], [3, 3]⟩) (div 2 .p ⟨[0, 2], [3, 5]⟩ ⟨[1/2, 2], [3, 4]⟩) :=
  div_iso_poi 2 .p (Or.inl rfl) _ signP_pos ⟨rfl, rfl, by decide, by decide, by decide⟩
    ⟨rfl, rfl, by decide, by decide, by decide⟩ ⟨rfl, rfl, by decide, by decide, by decide⟩
    ⟨rfl, rfl, by decide +kernel, by decide, by decide +kernel⟩ (by constructor <;> decide) (by constructor <;> decide +kernel)
    (by decide) (by decide) (by decide +kernel) (by decide)

end Recip

section Signed
open Pun List Pun.PBox

/-! ### the Frechet product for every sign class that does not straddle zero (negation conjugation) -/

structure PosBox (P : PB) : Prop where
  lnn : ∀ v ∈ P.left, 0 ≤ v
  rnn : ∀ v ∈ P.right, 0 ≤ v
  hipos : 0 < hi P

def NonPosB (P : PB) : Prop := (∀ v ∈ P.left, v ≤ 0) ∧ (∀ v ∈ P.right, v ≤ 0)

/-- sign class of an operand as the dispatch of `frechet_pbox_mul` sees it -/
inductive Sg (P : PB) : Bool → Prop
  | neg : NonPosB P → Sg P true
  | pos : PosBox P → Sg P false

theorem hi_nonpos {P : PB} (h : NonPosB P) : hi P ≤ 0 := by
  by_cases hr : P.right = []
  · simp [hi, hr]
  · exact h.2 _ (hi_mem hr)

theorem Sg.hi_iff {P : PB} {b : Bool} (h : Sg P b) : hi P ≤ 0 ↔ b = true := by
  cases h with
  | neg hn => simp [hi_nonpos hn]
  | pos hp => simp [not_le.mpr hp.hipos]

theorem Sg.noStraddle {P : PB} {b : Bool} (h : Sg P b) : straddlesZero P = false := by
  cases h with
  | neg hn => exact straddlesZero_false_of_right_nonpos P hn.2
  | pos hp => exact straddlesZero_false_of_left_nonneg P hp.lnn

/-- on non-negative operands (no condition on the upper end) `×` agrees with `mulPos`, which is monotone in both
arguments -/
theorem classicFrechet_mul_iso (n : Nat) {A A' B B' : PB} (wA : WF n A) (wA' : WF n A') (wB : WF n B) (wB' : WF n B')
    (nA : NonNeg A) (nA' : NonNeg A') (nB : NonNeg B) (nB' : NonNeg B')
    (hA : PSub A A') (hB : PSub B B') :
    IsoRes n (classicFrechet n (· * ·) A B) (classicFrechet n (· * ·) A' B') := by
  have e : ∀ {P Q : PB}, NonNeg P → NonNeg Q →
      classicFrechet n (· * ·) P Q = mk n false (frechetOp mulPos P Q).1 (frechetOp mulPos P Q).2 := fun hP hQ =>
    congrArg (fun p : List Rat × List Rat => mk n false p.1 p.2) (frechetOp_mul_eq _ _ hP hQ)
  exact mk_iso (Or.inl rfl) false (frechetOp_facts _ mulPos_mono2 n wA wB) (frechetOp_facts _ mulPos_mono2 n wA' wB')
    (iso_frechetOp _ mulPos_mono2 hA hB) (e nA nB) (e nA' nB')

/-- `|P|` for a one-signed operand: `-P` in the negative class, `P` itself otherwise -/
theorem absPart_iso (n : Nat) {X X' : PB} {b : Bool} (wX : WF n X) (wX' : WF n X') (sX : Sg X b) (sX' : Sg X' b)
    (hX : PSub X X') :
    ∃ A A', (if b then neg n X else pure X) = Except.ok A ∧ (if b then neg n X' else pure X') = Except.ok A' ∧
      PSub A A' ∧ WF n A ∧ WF n A' ∧ NonNeg A ∧ NonNeg A' := by
  cases sX with
  | neg hn =>
    cases sX' with
    | neg hn' =>
      obtain ⟨A, A', e, e', hs, w, w'⟩ := neg_iso n wX wX' hX
      exact ⟨A, A', e, e', hs, w, w', Pun.WF.neg_nonneg wX.c04 (hi_nonpos hn) e,
        Pun.WF.neg_nonneg wX'.c04 (hi_nonpos hn') e'⟩
  | pos hp =>
    cases sX' with
    | pos hp' => exact ⟨X, X', rfl, rfl, hX, wX, wX', ⟨hp.lnn, hp.rnn⟩, ⟨hp'.lnn, hp'.rnn⟩⟩

/-- `frechet_pbox_mul` on one-signed operands, all four sign combinations at once: the classic product of `|P|` and
`|Q|`, negated when the signs differ (`nagative_frechet_pbox`; for two positive operands every step is the identity) -/
theorem mul_f_signed (n : Nat) {P Q : PB} {bp bq : Bool} (sP : Sg P bp) (sQ : Sg Q bq) :
    mul n .f P Q = (if bp then neg n P else pure P) >>= fun a => (if bq then neg n Q else pure Q) >>= fun b =>
      classicFrechet n (· * ·) a b >>= fun r => if bp.xor bq then neg n r else pure r := by
  simp only [mul, frechetMul, sP.noStraddle, sQ.noStraddle, Bool.or_self, Bool.false_eq_true, if_false,
    frechetMulNoStraddle, negativeFrechet, sP.hi_iff, sQ.hi_iff]
  cases bp <;> cases bq <;> simp

/-- **`X.mul(Y, 'f')` is isotone for every combination of one-signed operands** (non-negative with a positive upper
end, or non-positive — including operands that touch zero): positive × positive directly, the other three classes by
conjugation with the negation, as `nagative_frechet_pbox` does -/
theorem mul_iso_f_signed (n : Nat) {X X' Y Y' : PB} {bx b_y : Bool}
    (wX : WF n X) (wX' : WF n X') (wY : WF n Y) (wY' : WF n Y')
    (sX : Sg X bx) (sX' : Sg X' bx) (sY : Sg Y b_y) (sY' : Sg Y' b_y) (hX : PSub X X') (hY : PSub Y Y') :
    IsoRes n (mul n .f X Y) (mul n .f X' Y') := by
  obtain ⟨A, A', eA, eA', hA, wA, wA', nA, nA'⟩ := absPart_iso n wX wX' sX sX' hX
  obtain ⟨B, B', eB, eB', hB, wB, wB', nB, nB'⟩ := absPart_iso n wY wY' sY sY' hY
  obtain ⟨R, R', eR, eR', hR, wR, wR'⟩ := classicFrechet_mul_iso n wA wA' wB wB' nA nA' nB nB' hA hB
  rw [mul_f_signed n sX sY, mul_f_signed n sX' sY', eA, eA', eB, eB']
  simp only [bind, Except.bind, eR, eR']
  cases bx.xor b_y
  · exact ⟨R, R', rfl, rfl, hR, wR, wR'⟩
  · exact neg_iso n wR wR' hR

/-- **`X.mul(Y, 'f')` is isotone on non-negative operands with a positive upper end** (the monotone quadrant; other
sign classes go through negation, the zero-straddling ones through the naive ∩ Balch branch: tie and oracle only) -/
theorem mul_iso_f_pos (n : Nat) {X X' Y Y' : PB}
    (wX : WF n X) (wX' : WF n X') (wY : WF n Y) (wY' : WF n Y') (pX : PosBox X) (pX' : PosBox X') (pY : PosBox Y)
    (pY' : PosBox Y') (hX : PSub X X') (hY : PSub Y Y') : IsoRes n (mul n .f X Y) (mul n .f X' Y') :=
  mul_iso_f_signed n wX wX' wY wY' (.pos pX) (.pos pX') (.pos pY) (.pos pY') hX hY

end Signed
section DivF
open Pun List Pun.PBox

/-! ### `c / X` and division under Frechet, divisor of one sign -/

/-- **`c / X` is isotone** for an operand of one sign (reciprocal, then the product with the number) -/
theorem numLeft_div_iso (n : Nat) (c : Rat) (p : Rat → Prop) (sp : SignP p) {X X' : PB} (wX : WF n X) (wX' : WF n X')
    (hX : PSub X X') (hl : ∀ v ∈ X.left, p v) (hr : ∀ v ∈ X.right, p v) (hl' : ∀ v ∈ X'.left, p v)
    (hr' : ∀ v ∈ X'.right, p v) : IsoRes n (numLeft n .div c X) (numLeft n .div c X') := by
  obtain ⟨r, r', e, e', hr0, wr, wr'⟩ := recip_iso n p sp wX wX' hX hl hr hl' hr'
  simp only [numLeft, e, e', bind, Except.bind]
  exact numberOp_mul_iso n c wr wr' hr0

theorem recip_sign (n : Nat) (hn : 0 < n) (p : Rat → Prop) (sp : SignP p) (b : Bool)
    (hb : (b = false ∧ ∀ x, p x ↔ 0 < x) ∨ (b = true ∧ ∀ x, p x ↔ x < 0))
    {Y r : PB} (wY : WF n Y) (hl : ∀ v ∈ Y.left, p v) (hr : ∀ v ∈ Y.right, p v) (e : recip n Y = .ok r) : Sg r b := by
  rw [recip_ok n p sp wY hl hr] at e
  cases e
  have mem : ∀ {l : List Rat} {q : Rat → Prop}, (∀ a ∈ l, p a → q (1 / a)) → (∀ a ∈ l, p a) →
      ∀ v ∈ l.reverse.map (1 / ·), q v := by
    intro l q hq hp v hv
    obtain ⟨a, ha, rfl⟩ := List.mem_map.mp hv
    exact hq a (List.mem_reverse.mp ha) (hp a (List.mem_reverse.mp ha))
  rcases hb with ⟨rfl, hp⟩ | ⟨rfl, hp⟩
  · have posR := mem (q := fun v => 0 < v) (fun a _ ha => one_div_pos.mpr ((hp a).mp ha)) hr
    have posL := mem (q := fun v => 0 < v) (fun a _ ha => one_div_pos.mpr ((hp a).mp ha)) hl
    refine .pos ⟨fun v hv => le_of_lt (posR v hv), fun v hv => le_of_lt (posL v hv), posL _ (hi_mem ?_)⟩
    exact List.ne_nil_of_length_pos (by simp [wY.llen, hn])
  · exact .neg ⟨fun v hv => le_of_lt (mem (q := fun v => v < 0) (fun a _ ha => one_div_neg.mpr ((hp a).mp ha)) hr v hv),
      fun v hv => le_of_lt (mem (q := fun v => v < 0) (fun a _ ha => one_div_neg.mpr ((hp a).mp ha)) hl v hv)⟩

/-- **`X.div(Y, 'f')` is isotone** for a one-signed dividend class and a divisor of one strict sign:
reciprocal, `1 * (1/Y)`, then the Frechet product (`p ↔ o` swap leaves `f` alone) -/
theorem div_iso_f (n : Nat) (hn : 0 < n) (p : Rat → Prop) (sp : SignP p) (b : Bool)
    (hb : (b = false ∧ ∀ x, p x ↔ 0 < x) ∨ (b = true ∧ ∀ x, p x ↔ x < 0)) {bx : Bool}
    {X X' Y Y' : PB} (wX : WF n X) (wX' : WF n X') (wY : WF n Y) (wY' : WF n Y') (sX : Sg X bx) (sX' : Sg X' bx)
    (hX : PSub X X') (hY : PSub Y Y')
    (hl : ∀ v ∈ Y.left, p v) (hr : ∀ v ∈ Y.right, p v) (hl' : ∀ v ∈ Y'.left, p v) (hr' : ∀ v ∈ Y'.right, p v) :
    IsoRes n (div n .f X Y) (div n .f X' Y') := by
  obtain ⟨r, r', e, e', hr0, wr, wr'⟩ := recip_iso n p sp wY wY' hY hl hr hl' hr'
  rw [div_eq n .f X wr e, div_eq n .f X' wr' e']
  exact mul_iso_f_signed n wX wX' wr wr' sX sX' (recip_sign n hn p sp b hb wY hl hr e)
    (recip_sign n hn p sp b hb wY' hl' hr' e') hX hr0

end DivF

section SignedExamples
open Pun List Pun.PBox
/-! non-vacuity: a strictly negative operand widened until it touches zero (`hi = 0`), times a positive one -/
example : PosBox ⟨[1, 2], [2, 4]⟩ := ⟨by decide, by decide, by decide +kernel⟩
example : Sg ⟨[-2, -2], [-1, -1/2]⟩ true := Sg.neg ⟨by decide +kernel, by decide +kernel⟩
example : Sg ⟨[-2, -2], [-1, 0]⟩ true := Sg.neg ⟨by decide +kernel, by decide +kernel⟩
example : Sg ⟨[1, 2], [2, 3]⟩ false := Sg.pos ⟨by decide, by decide, by decide +kernel⟩
example : IsoRes 2 (mul 2 .f ⟨[1, 2], [2, 3]⟩ ⟨[-2, -2], [-1, -1/2]⟩) (mul 2 .f ⟨[1, 2], [2, 3]⟩ ⟨[-2, -2], [-1, 0]⟩) :=
  mul_iso_f_signed 2 ⟨rfl, rfl, by decide, by decide, by decide⟩ ⟨rfl, rfl, by decide, by decide, by decide⟩
    ⟨rfl, rfl, by decide, by decide +kernel, by decide +kernel⟩ ⟨rfl, rfl, by decide, by decide, by decide⟩
    (Sg.pos ⟨by decide, by decide, by decide +kernel⟩) (Sg.pos ⟨by decide, by decide, by decide +kernel⟩)
    (Sg.neg ⟨by decide +kernel, by decide +kernel⟩) (Sg.neg ⟨by decide +kernel, by decide +kernel⟩)
    (PSub.refl _) (by constructor <;> decide +kernel)
example : IsoRes 2 (numLeft 2 .div 3 ⟨[1, 2], [2, 4]⟩) (numLeft 2 .div 3 ⟨[1/2, 2], [3, 5]⟩) :=
  numLeft_div_iso 2 3 _ signP_pos ⟨rfl, rfl, by decide, by decide, by decide⟩
    ⟨rfl, rfl, by decide +kernel, by decide, by decide +kernel⟩ (by constructor <;> decide +kernel)
    (by decide) (by decide) (by decide +kernel) (by decide)
end SignedExamples

section Mixed
open Pun Pun.PBox

/-! ## alpha-cuts, stacking, slicing -/

theorem mapM_forall₂ {α β : Type} (f f' : α → Except Err β) (S : α → α → Prop) (R : β → β → Prop)
    {l l' : List α} (hl : List.Forall₂ S l l')
    (h : ∀ a a', S a a' → ∀ b b', f a = .ok b → f' a' = .ok b' → R b b') :
    ∀ bs bs', l.mapM f = .ok bs → l'.mapM f' = .ok bs' → List.Forall₂ R bs bs' := by
  induction hl with
  | nil =>
    rintro _ _ ⟨⟩ ⟨⟩
    exact .nil
  | @cons a a' t t' hS _ ih =>
    simp only [List.mapM_cons]
    refine bind_rel (h a a' hS) fun b b' hb => bind_rel ih fun r r' hr => ?_
    rintro _ _ ⟨⟩ ⟨⟩
    exact .cons hb hr

theorem alphaCut_ok {pv : List Rat} {P : PB} {a : Rat} {c : Rat × Rat} (e : alphaCut pv P a = .ok c) :
    P.left[nearestIdx pv a]? = some c.1 ∧ P.right[nearestIdx pv a]? = some c.2 ∧ c.1 ≤ c.2 := by
  unfold alphaCut at e
  simp only at e
  split at e
  · split at e
    · cases e
      exact ⟨‹_›, ‹_›, ‹_›⟩
    · cases e
  · cases e

/-- **the cut index depends on the level and the grid only**; the cut of a wider p-box at the same level is wider -/
theorem alphaCut_iso (pv : List Rat) (a : Rat) {P P' : PB} (hP : PSub P P') (c c' : Rat × Rat)
    (e : alphaCut pv P a = .ok c) (e' : alphaCut pv P' a = .ok c') :
    (c'.1 ≤ c.1 ∧ c.2 ≤ c'.2) ∧ c.1 ≤ c.2 ∧ c'.1 ≤ c'.2 := by
  obtain ⟨l, r, v⟩ := alphaCut_ok e
  obtain ⟨l', r', v'⟩ := alphaCut_ok e'
  obtain ⟨x, hx, hl⟩ := forall₂_getElem? hP.1 l'
  obtain ⟨y, hy, hr⟩ := forall₂_getElem? hP.2 r
  cases l.symm.trans hx
  cases r'.symm.trans hy
  exact ⟨⟨hl, hr⟩, v, v'⟩

theorem box_of_nest {box box' : List (Rat × Rat)} (h : List.Forall₂ Nest box box') :
    BoxSub box box' ∧ BoxValid box ∧ BoxValid box' := by
  induction h with
  | nil => exact ⟨.nil, fun _ h => (List.not_mem_nil h).elim, fun _ h => (List.not_mem_nil h).elim⟩
  | cons hc _ ih =>
    exact ⟨.cons ⟨hc.1, hc.2.2⟩ ih.1, List.forall_mem_cons.2 ⟨hc.2.1, ih.2.1⟩,
      List.forall_mem_cons.2 ⟨le_trans hc.1 (le_trans hc.2.1 hc.2.2), ih.2.2⟩⟩

theorem cutBox_iso (pv : List Rat) {vars vars' : List PB} (h : List.Forall₂ PSub vars vars') (row : List Rat)
    (box box' : List (Rat × Rat)) (e : cutBox pv vars row = .ok box) (e' : cutBox pv vars' row = .ok box') :
    BoxSub box box' ∧ BoxValid box ∧ BoxValid box' := by
  have hz : List.Forall₂ (fun (x x' : PB × Rat) => PSub x.1 x'.1 ∧ x.2 = x'.2) (vars.zip row) (vars'.zip row) :=
    forall₂_zipWith h (List.forall₂_refl (Rₐ := Eq) row) fun _ _ _ _ h1 h2 => ⟨h1, h2⟩
  refine box_of_nest (mapM_forall₂ _ _ _ _ hz ?_ box box' e e')
  intro x x' hx c c' hc hc'
  rw [← hx.2] at hc'
  obtain ⟨k, v, -⟩ := alphaCut_iso pv x.2 hx.1 c c' hc hc'
  exact ⟨k.1, v, k.2⟩

theorem asIvl_iso {v v' : Arith.Opd} (h : VSub v v') (hv : Valid v) (c c' : Rat × Rat)
    (e : asIvl v = .ok c) (e' : asIvl v' = .ok c') : Nest c c' := by
  cases v with
  | N x =>
    cases v' with
    | N x' =>
      cases e; cases e'; cases h
      exact ⟨le_rfl, le_rfl, le_rfl⟩
    | _ => exact h.elim
  | I a b =>
    cases v' with
    | I a' b' =>
      cases e; cases e'
      exact ⟨h.1, hv, h.2⟩
    | _ => exact h.elim
  | _ => exact hv.elim

theorem rowImages_iso (pv : List Rat) (rows : List (List Rat)) (t : ITree) {vars vars' : List PB}
    (h : List.Forall₂ PSub vars vars') (im im' : List (Rat × Rat))
    (e : rowImages pv rows t vars = .ok im) (e' : rowImages pv rows t vars' = .ok im') :
    List.Forall₂ Nest im im' := by
  refine mapM_forall₂ _ _ (· = ·) _ (List.forall₂_refl rows) ?_ im im' e e'
  rintro row _ rfl
  exact bind_rel (cutBox_iso pv h row) fun box box' ⟨bs, bv, bv'⟩ =>
    bind_rel (itree_iso t bv bv' bs) fun v v' ⟨sv, vv, _⟩ => asIvl_iso sv vv

theorem sliceImages_iso (pv levels : List Rat) (t : ITree) {vars vars' : List PB} (h : List.Forall₂ PSub vars vars')
    (im im' : List (Rat × Rat)) (e : sliceImages pv levels t vars = .ok im) (e' : sliceImages pv levels t vars' = .ok im') :
    List.Forall₂ Nest im im' := by
  unfold sliceImages at e e'
  rw [← h.length_eq] at e'
  exact rowImages_iso pv _ t h im im' e e'

theorem ok_of_guard {α : Type} {c : Prop} [Decidable c] {e : Err} {x : Except Err α} {Q : α}
    (h : (if c then .error e else x) = .ok Q) : x = .ok Q := by
  split at h
  · cases h
  · exact h

/-- stacking returns the two looked-up bounds: behind its four guards, they are ordered already, so the switch of
the constructor is idle -/
theorem stacking_ok {g a b wts : List Rat} {Q : PB} (hw : ∀ w ∈ wts, 0 ≤ w) (hg : ∀ p ∈ g, 0 < p) (hab : LE a b)
    (hq : stacking g a b wts = .ok Q) : Q = ⟨stackBound g a wts, stackBound g b wts⟩ := by
  have hle := stackBound_mono (g := g) hab hw hg
  have h := ok_of_guard (ok_of_guard (ok_of_guard (ok_of_guard hq)))
  by_cases hge : allGe (stackBound g a wts) (stackBound g b wts) = true
  · rw [eq_of_allGe_of_le hle hge, ite_self] at h
    rw [eq_of_allGe_of_le hle hge]
    exact (Except.ok.inj h).symm
  · rw [if_neg hge] at h
    exact (Except.ok.inj h).symm

/-- **stacking is isotone**: same weights `≥ 0`, grid levels `> 0`; wider focal intervals give a wider p-box -/
theorem stacking_iso (g lo hi lo' hi' wts : List Rat) (hw : ∀ w ∈ wts, 0 ≤ w) (hg : ∀ p ∈ g, 0 < p)
    (hl : LE lo' lo) (hh : LE hi hi') (hv : LE lo hi) (hv' : LE lo' hi') (R R' : PB)
    (e : stacking g lo hi wts = .ok R) (e' : stacking g lo' hi' wts = .ok R') : PSub R R' := by
  rw [stacking_ok hw hg hv e, stacking_ok hw hg hv' e']
  exact ⟨stackBound_mono hl hw hg, stackBound_mono hh hw hg⟩

theorem bounds_of_nest {im im' : List (Rat × Rat)} (hf : List.Forall₂ Nest im im') :
    LE (im'.map Prod.fst) (im.map Prod.fst) ∧ LE (im.map Prod.snd) (im'.map Prod.snd) ∧
    LE (im.map Prod.fst) (im.map Prod.snd) ∧ LE (im'.map Prod.fst) (im'.map Prod.snd) := by
  induction hf with
  | nil => exact ⟨.nil, .nil, .nil, .nil⟩
  | cons hc _ ih =>
    exact ⟨.cons hc.1 ih.1, .cons hc.2.2 ih.2.1, .cons hc.2.1 ih.2.2.1,
      .cons (le_trans hc.1 (le_trans hc.2.1 hc.2.2)) ih.2.2.2⟩

theorem stacking_images_iso (pv : List Rat) (w : Rat) (hw : 0 ≤ w) (hg : ∀ p ∈ pv, 0 < p) {im im' : List (Rat × Rat)}
    (hf : List.Forall₂ Nest im im') (R R' : PB)
    (e : stacking pv (im.map Prod.fst) (im.map Prod.snd) (List.replicate im.length w) = .ok R)
    (e' : stacking pv (im'.map Prod.fst) (im'.map Prod.snd) (List.replicate im'.length w) = .ok R') : PSub R R' := by
  obtain ⟨s1, s2, s3, s4⟩ := bounds_of_nest hf
  rw [← hf.length_eq] at e'
  exact stacking_iso pv _ _ _ _ _ (fun x hx => List.eq_of_mem_replicate hx ▸ hw) hg s1 s2 s3 s4 R R' e e'

/-- **mixed propagation (`slicing`, direct interval strategy) with a fixed number of slices is isotone**:
the level grid does not depend on the operands, every cut of a wider p-box is wider, the response
expression is inclusion isotone, and stacking is monotone in the focal intervals -/
theorem slicing_iso (pv levels : List Rat) (t : ITree) (w : Rat) (hw : 0 ≤ w) (hg : ∀ p ∈ pv, 0 < p)
    {vars vars' : List PB} (h : List.Forall₂ PSub vars vars') (R R' : PB)
    (e : slicing pv levels t vars w = .ok R) (e' : slicing pv levels t vars' w = .ok R') : PSub R R' :=
  bind_rel (sliceImages_iso pv levels t h) (fun _ _ hf => stacking_images_iso pv w hw hg hf) R R' e e'

/-! non-vacuity: three focal intervals with weights 1/4, 1/4, 1/2 on the grid {1/4, 1/2, 3/4, 1}, then widened -/
example : LE (stackBound [1/4, 1/2, 3/4, 1] [0, 3, 1] [1/4, 1/4, 1/2]) (stackBound [1/4, 1/2, 3/4, 1] [1, 3, 2] [1/4, 1/4, 1/2]) :=
  stackBound_mono (by decide +kernel) (by decide +kernel) (by decide +kernel)
example : alphaCut [1/10, 1/2, 9/10] ⟨[1, 2, 3], [2, 3, 4]⟩ (3/5) = .ok (2, 3) := by decide +kernel
example : nearestIdx [1/10, 1/2, 9/10] (3/10) = 0 := by decide +kernel   -- a tie: `argmin` keeps the first

/-- **interval Monte Carlo with the same level rows in both runs is isotone** (the rows are what the dependency
object draws: `u_sample(n_sam, random_state)`; reproducibility of that draw is a runtime fact checked by the oracle) -/
theorem imc_iso (pv : List Rat) (rows : List (List Rat)) (t : ITree) (w : Rat) (hw : 0 ≤ w) (hg : ∀ p ∈ pv, 0 < p)
    {vars vars' : List PB} (h : List.Forall₂ PSub vars vars') (R R' : PB)
    (e : imc pv rows t vars w = .ok R) (e' : imc pv rows t vars' w = .ok R') : PSub R R' :=
  bind_rel (rowImages_iso pv rows t h) (fun _ _ hf => stacking_images_iso pv w hw hg hf) R R' e e'

end Mixed

/-! ## the full statement and what is missing -/

section Statement
open Pun Pun.PBox

def PTree.NoDiv : PTree → Prop
  | .var _ => True
  | .bin o d a b => o ≠ .div ∧ d ≠ .unknown ∧ a.NoDiv ∧ b.NoDiv
  | .numR o a c => (o = .div → c ≠ 0) ∧ a.NoDiv
  | .numL o _ a => o ≠ .div ∧ a.NoDiv
  | .neg a => a.NoDiv
  | .env a b => a.NoDiv ∧ b.NoDiv
  | .imp a b => a.NoDiv ∧ b.NoDiv

/-- **C12 for p-box expressions at full strength** (division apart): every nested expression, every dependency
including the Frechet product of operands of any sign.  `ptree_iso_partial` proves it for the trees whose
products are under perfect / opposite / independent dependence (`PTree.Proven`); `mul_iso_f_signed` adds the Frechet
product of one-signed operands of every sign combination (also touching zero).  MISSING: the Frechet product with a
zero-straddling operand (naive ∩ Balch) and pairs whose sign class differs between `X` and `X'`. -/
def C12Statement : Prop :=
  ∀ (n : Nat) (t : PTree), t.NoDiv → ∀ (vars vars' : List PB), List.Forall₂ PSub vars vars' →
    (∀ P ∈ vars, WF n P) → (∀ P ∈ vars', WF n P) →
    ∀ R R', t.eval n vars = .ok R → t.eval n vars' = .ok R' → PSub R R'

/-- **C12 for division** `X.div(Y, d)` with a divisor of one sign.  `div_iso_poi` proves it under perfect / opposite /
independent dependence, `div_iso_f` under Frechet for a one-signed dividend, `numLeft_div_iso` for `c / X`.
MISSING: `d = f` with a dividend that straddles zero (the naive ∩ Balch branch of the product) or whose sign class
differs between `X` and `X'`. -/
def C12DivStatement : Prop :=
  ∀ (n : Nat) (d : Dep), d ≠ .unknown → ∀ (X X' Y Y' : PB), WF n X → WF n X' → WF n Y → WF n Y' →
    ((∀ v ∈ Y'.left, 0 < v) ∨ (∀ v ∈ Y'.right, v < 0)) → PSub X X' → PSub Y Y' →
    ∀ R R', div n d X Y = .ok R → div n d X' Y' = .ok R' → PSub R R'

theorem proven_noDiv (t : PTree) (h : t.Proven) : t.NoDiv := by
  induction t with
  | var i => trivial
  | bin o d a b iha ihb =>
    obtain ⟨hn, ha, hb⟩ := h
    refine ⟨?_, ?_, iha ha, ihb hb⟩
    · rcases hn with ⟨ho, _⟩ | ⟨ho, _⟩
      · rcases ho with ho | ho <;> subst ho <;> simp
      · subst ho; simp
    · rcases hn with ⟨_, hd⟩ | ⟨_, hd⟩
      · exact hd
      · rcases hd with hd | hd | hd <;> subst hd <;> simp
  | numR o a c iha => exact ⟨h.1, iha h.2⟩
  | numL o c a iha => exact ⟨h.1, iha h.2⟩
  | neg a iha => exact iha h
  | env a b iha ihb => exact ⟨iha h.1, ihb h.2⟩
  | imp a b iha ihb => exact ⟨iha h.1, ihb h.2⟩

/-- the proved part of `C12Statement`, in its shape -/
theorem c12_partial (n : Nat) (t : PTree) (ht : t.Proven) (vars vars' : List PB) (h : List.Forall₂ PSub vars vars')
    (hw : ∀ P ∈ vars, WF n P) (hw' : ∀ P ∈ vars', WF n P) (R R' : PB)
    (e : t.eval n vars = .ok R) (e' : t.eval n vars' = .ok R') : PSub R R' := by
  obtain ⟨R0, e0, hs, _, _⟩ := ptree_iso_partial n t ht h hw hw' R e
  rw [e0] at e'
  cases e'
  exact hs

end Statement

end Pun.Iso
