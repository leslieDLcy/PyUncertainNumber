import Pun.Model.Tmcmc
import Mathlib.Tactic.Linarith
import Mathlib.Tactic.Ring
import Mathlib.Algebra.Order.BigOperators.Group.List
import Mathlib.Algebra.Order.Field.Rat
import Mathlib.Algebra.Order.Field.Basic
import Mathlib.Order.Monotone.Basic
/-!
# C19 — TMCMC tempering progresses to the posterior; its MH kernel respects the target

All statements are about the functions the driver executes (`Pun.Tmcmc.loopO`, `computeBeta`,
`weights`, `evidenceArg`, `mhStep`, `mhRun`, `retemper`, `stage`, `runStages`), for every oracle
`ess`, every rational input, every list length and every proposal / uniform stream.
-/
set_option linter.unusedVariables false
namespace Pun.Tmcmc

/-! ## 1. the bisection on the exponent -/

theorem lt_mid {mn mx tol b : Rat} (htol : 0 ≤ tol) (hw : tol < mx - mn) (hb : b ≤ mn) : b < (mx + mn) / 2 := by
  linarith
theorem mid_le {mn mx : Rat} (h : mn ≤ mx) : mn ≤ (mx + mn) / 2 ∧ (mx + mn) / 2 ≤ mx := by
  constructor <;> linarith
theorem half_width {mn mx tol : Rat} {f : Nat} (hw : mx - mn ≤ tol * 2 ^ (f + 1)) :
    (mx + mn) / 2 - mn ≤ tol * 2 ^ f ∧ mx - (mx + mn) / 2 ≤ tol * 2 ^ f := by
  rw [pow_succ] at hw
  constructor <;> linarith

/-- The runs of `loopO` that end in `.done`: `Returns ess rN tol f mn mx nb e r er` says that the loop started with
fuel `f`, bracket `[mn, mx]` and last pair `(nb, e)` returns `(r, er)`.  Either the body does not run (`stop`), or the
midpoint is tried and meets the target (`hit`), lies below it (`low`: the loop goes on in the left half) or above it
(`high`: in the right half). -/
inductive Returns (ess : Rat → Ans) (rN tol : Rat) : Nat → Rat → Rat → Rat → Rat → Rat → Rat → Prop
  | stop {f mn mx nb e} : (tol < mx - mn → f = 0) → Returns ess rN tol f mn mx nb e nb e
  | hit {f mn mx nb e} : tol < mx - mn → ess ((mx + mn) / 2) = .val rN →
      Returns ess rN tol (f + 1) mn mx nb e ((mx + mn) / 2) rN
  | low {f mn mx nb e e' r er} : tol < mx - mn → ess ((mx + mn) / 2) = .val e' → e' < rN →
      Returns ess rN tol f mn ((mx + mn) / 2) ((mx + mn) / 2) e' r er → Returns ess rN tol (f + 1) mn mx nb e r er
  | high {f mn mx nb e e' r er} : tol < mx - mn → ess ((mx + mn) / 2) = .val e' → rN < e' →
      Returns ess rN tol f ((mx + mn) / 2) mx ((mx + mn) / 2) e' r er → Returns ess rN tol (f + 1) mn mx nb e r er

section loop
variable {ess : Rat → Ans} {rN tol : Rat} {f : Nat} {mn mx nb e r er : Rat}

theorem loopO_returns (h : loopO ess rN tol f mn mx nb e = .done r er) : Returns ess rN tol f mn mx nb e r er := by
  fun_induction loopO ess rN tol f mn mx nb e with
  | case1 =>
    obtain ⟨rfl, rfl⟩ := Out.done.inj h
    exact .stop fun _ => rfl
  | case2 => cases h
  | case3 => cases h
  | case4 f mn mx nb e hw nb' he' =>
    obtain ⟨rfl, rfl⟩ := Out.done.inj h
    exact .hit hw he'
  | case5 f mn mx nb e hw nb' e' he' _ hlt ih => exact .low hw he' hlt (ih h)
  | case6 f mn mx nb e hw nb' e' he' hne hge ih =>
    exact .high hw he' (lt_of_le_of_ne (not_lt.mp hge) (Ne.symm hne)) (ih h)
  | case7 f mn mx nb e hw =>
    obtain ⟨rfl, rfl⟩ := Out.done.inj h
    exact .stop fun hw' => absurd hw' hw

/-- strict progress of the loop (`loop_gt`, `loop_gt_of_wide` in P12 of DESIGN-proofs.md): the exponent returned
exceeds every lower bound `b ≤ min` that the current candidate already exceeds; and when the bracket is wider than the
tolerance (and there is fuel) a first candidate is tried, which exceeds `min` -/
theorem Returns.gt (hr : Returns ess rN tol f mn mx nb e r er) (htol : 0 ≤ tol) {b : Rat} (hb : b ≤ mn)
    (hnb : b < nb ∨ (tol < mx - mn ∧ 0 < f)) : b < r := by
  induction hr with
  | stop h0 => exact hnb.resolve_right fun h => h.2.ne' (h0 h.1)
  | hit hw _ => exact lt_mid htol hw hb
  | low hw _ _ _ ih => exact ih hb (Or.inl (lt_mid htol hw hb))
  | high hw _ _ _ ih => exact ih (lt_mid htol hw hb).le (Or.inl (lt_mid htol hw hb))

theorem Returns.ess_eq (hr : Returns ess rN tol f mn mx nb e r er)
    (h0 : ess nb = .val e ∨ (tol < mx - mn ∧ 0 < f)) : ess r = .val er := by
  induction hr with
  | stop hs => exact h0.resolve_right fun h => h.2.ne' (hs h.1)
  | hit _ he' => exact he'
  | low _ he' _ _ ih => exact ih (Or.inl he')
  | high _ he' _ _ ih => exact ih (Or.inl he')

/-- optimality of the bisection for an antitone ESS function `E`.  Invariant: left of `min` (and right of `old`) the
ESS is above the target, right of `max` (and left of `top`) below it.  With enough fuel the loop stops on a bracket of
width `≤ tol`, so the same holds `tol` away from the exponent returned — unless it meets the target exactly. -/
theorem Returns.optimal (hr : Returns ess rN tol f mn mx nb e r er) {E : Rat → Rat}
    (hE : ∀ b e, ess b = .val e → e = E b) (hanti : Antitone E) (htol : 0 ≤ tol) {old top : Rat}
    (hw : mx - mn ≤ tol * 2 ^ f) (hnb : nb = mn ∨ nb = mx)
    (hlo : ∀ x, old < x → x ≤ mn → rN < E x) (hhi : ∀ x, mx ≤ x → x < top → E x < rN) :
    E r = rN ∨ ((∀ x, old < x → x ≤ r - tol → rN < E x) ∧ (∀ x, r + tol ≤ x → x < top → E x < rN)) := by
  induction hr with
  | @stop f mn mx nb e h0 =>
    have hwid : mx - mn ≤ tol := by
      by_contra hc
      rw [h0 (not_le.mp hc), pow_zero, mul_one] at hw
      exact hc hw
    -- the exponent returned is an end of a bracket of width `≤ tol`
    have hb : nb - tol ≤ mn ∧ mx ≤ nb + tol := by
      rcases hnb with rfl | rfl <;> constructor <;> linarith
    exact Or.inr ⟨fun x h1 h2 => hlo x h1 (h2.trans hb.1), fun x h1 h2 => hhi x (hb.2.trans h1) h2⟩
  | hit _ he' => exact Or.inl (hE _ _ he').symm
  | @low f mn mx nb e e' r er _ he' hlt _ ih =>
    refine ih (half_width hw).1 (Or.inr rfl) hlo fun x h1 _ => ?_
    exact (hanti h1).trans_lt (hE _ _ he' ▸ hlt)
  | @high f mn mx nb e e' r er _ he' hlt _ ih =>
    refine ih (half_width hw).2 (Or.inl rfl) (fun x _ h2 => ?_) hhi
    exact (hE _ _ he' ▸ hlt).trans_le (hanti h2)

end loop

/-- `loop_le` in P12 of DESIGN-proofs.md -/
theorem loopO_le (ess : Rat → Ans) (rN tol : Rat) (f : Nat) (mn mx nb e r er : Rat)
    (hmm : mn ≤ mx) (hnb : nb ≤ mx) (h : loopO ess rN tol f mn mx nb e = .done r er) : r ≤ mx := by
  have hr := loopO_returns h
  clear h
  induction hr with
  | stop => exact hnb
  | hit => exact (mid_le hmm).2
  | low _ _ _ _ ih => exact (ih (mid_le hmm).1 le_rfl).trans (mid_le hmm).2
  | high _ _ _ _ ih => exact ih (mid_le hmm).2 (mid_le hmm).2

/-- (`loop_fuel` in P12) termination: once `tol · 2^f` covers the bracket, extra fuel changes nothing,
i.e. the fuelled loop *is* the Python `while` loop -/
theorem loopO_fuel (ess : Rat → Ans) (rN tol : Rat) (f g : Nat) (mn mx nb e : Rat)
    (hw : mx - mn ≤ tol * 2 ^ f) :
    loopO ess rN tol (f + g) mn mx nb e = loopO ess rN tol f mn mx nb e := by
  induction f generalizing mn mx nb e with
  | zero =>
    have hstop : ¬ tol < mx - mn := not_lt.mpr (by rwa [pow_zero, mul_one] at hw)
    cases g with
    | zero => rfl
    | succ g => simp only [loopO, if_neg hstop]
  | succ f ih =>
    -- the two recursive calls, whatever ESS value they are entered with
    have h1 := fun e' => ih mn ((mx + mn) / 2) ((mx + mn) / 2) e' (half_width hw).1
    have h2 := fun e' => ih ((mx + mn) / 2) mx ((mx + mn) / 2) e' (half_width hw).2
    rw [Nat.add_right_comm]
    simp only [loopO, h1, h2]

theorem computeBeta_done {c : Consts} {ess : Rat → Ans} {old prev b e : Rat} {cl : Bool}
    (h : computeBeta c ess old prev = .done b e cl) :
    c.tol < c.maxBeta - old ∧ ∃ r, Returns ess (rN c prev) c.tol fuel old c.maxBeta old 0 r e ∧
      ((1 ≤ r ∧ b = 1 ∧ cl = true) ∨ (r < 1 ∧ b = r ∧ cl = false)) := by
  revert h
  fun_cases computeBeta c ess old prev with
  | case1 => nofun
  | case2 => nofun
  | case3 hw r er hl h1 =>
    intro h
    obtain ⟨rfl, rfl, rfl⟩ := Res.done.inj h
    exact ⟨hw, r, loopO_returns hl, Or.inl ⟨h1, rfl, rfl⟩⟩
  | case4 hw r er hl h1 =>
    intro h
    obtain ⟨rfl, rfl, rfl⟩ := Res.done.inj h
    exact ⟨hw, r, loopO_returns hl, Or.inr ⟨not_le.mp h1, rfl, rfl⟩⟩
  | case5 => nofun

/-- ★ every stage strictly increases the tempering exponent -/
theorem beta_strictly_increases (c : Consts) (ess : Rat → Ans) (old prev b e : Rat) (cl : Bool)
    (htol : 0 ≤ c.tol) (hold : old < 1)
    (h : computeBeta c ess old prev = .done b e cl) : old < b := by
  obtain ⟨hw, r, hr, hb⟩ := computeBeta_done h
  rcases hb with ⟨_, rfl, _⟩ | ⟨_, rfl, _⟩
  · exact hold
  · exact hr.gt htol le_rfl (Or.inr ⟨hw, Nat.succ_pos _⟩)

/-- ★ the exponent is at most 1 -/
theorem beta_le_one (c : Consts) (ess : Rat → Ans) (old prev b e : Rat) (cl : Bool)
    (h : computeBeta c ess old prev = .done b e cl) : b ≤ 1 := by
  obtain ⟨_, r, _, hb⟩ := computeBeta_done h
  rcases hb with ⟨_, rfl, _⟩ | ⟨h1, rfl, _⟩
  · exact le_rfl
  · exact h1.le

/-- ★ the stage loop `while beta < 1` can only stop at exponent exactly 1 -/
theorem loop_ends_at_one (c : Consts) (ess : Rat → Ans) (old prev b e : Rat) (cl : Bool)
    (h : computeBeta c ess old prev = .done b e cl) (hstop : ¬ b < 1) : b = 1 :=
  le_antisymm (beta_le_one c ess old prev b e cl h) (not_lt.mp hstop)

theorem clamped_iff (c : Consts) (ess : Rat → Ans) (old prev b e : Rat) (cl : Bool)
    (h : computeBeta c ess old prev = .done b e cl) : cl = true ↔ b = 1 := by
  obtain ⟨_, r, _, hb⟩ := computeBeta_done h
  rcases hb with ⟨_, rfl, rfl⟩ | ⟨h1, rfl, rfl⟩
  · exact iff_of_true rfl rfl
  · exact iff_of_false Bool.false_ne_true h1.ne

/-- the error branch: the loop body never runs (`old ≥ max_beta − tol`) ⇒ `UnboundLocalError` -/
theorem unbound_iff (c : Consts) (ess : Rat → Ans) (old prev : Rat) :
    computeBeta c ess old prev = .raise .Unbound ↔ ¬ c.tol < c.maxBeta - old := by
  fun_cases computeBeta c ess old prev with
  | case1 hw => exact iff_of_false nofun (not_not.mpr hw)
  | case2 hw => exact iff_of_false nofun (not_not.mpr hw)
  | case3 hw => exact iff_of_false nofun (not_not.mpr hw)
  | case4 hw => exact iff_of_false nofun (not_not.mpr hw)
  | case5 hw => exact iff_of_true rfl hw

/-- ★ `fuel = 64` suffices for every `old ≥ 0`-style bracket: with `max_beta − old ≤ tol·2^64` the
fuelled loop equals the loop with any larger fuel (the unbounded `while`) -/
theorem bisect_fuel_suffices (c : Consts) (ess : Rat → Ans) (old prev : Rat) (htol : 0 < c.tol)
    (hw : c.maxBeta - old ≤ c.tol * 2 ^ fuel) (g : Nat) :
    loopO ess (rN c prev) c.tol (fuel + g) old c.maxBeta old 0
      = loopO ess (rN c prev) c.tol fuel old c.maxBeta old 0 :=
  loopO_fuel ess (rN c prev) c.tol fuel g old c.maxBeta old 0 hw

/-- `Returns.optimal` for the loop as `computeBeta` starts it: nothing lies between `old` and `min = old`, nor between
`max = max_beta` and `max_beta` -/
theorem Returns.optimal_start {c : Consts} {ess : Rat → Ans} {old prev r e : Rat}
    (hr : Returns ess (rN c prev) c.tol fuel old c.maxBeta old 0 r e)
    {E : Rat → Rat} (hE : ∀ b e, ess b = .val e → e = E b) (hanti : Antitone E)
    (htol : 0 < c.tol) (hfuel : c.maxBeta - old ≤ c.tol * 2 ^ fuel) :
    E r = rN c prev ∨
     ((∀ x, old < x → x ≤ r - c.tol → rN c prev < E x) ∧
      (∀ x, r + c.tol ≤ x → x < c.maxBeta → E x < rN c prev)) :=
  hr.optimal hE hanti htol.le hfuel (Or.inl rfl) (fun _ h1 h2 => absurd h2 (not_le.mpr h1))
    (fun _ h1 h2 => absurd h2 (not_lt.mpr h1))

/-- ★ optimality of the increment (exponent below 1).  For an antitone effective sample size `E`
the exponent chosen either meets the target exactly, or lies within `tol` of the threshold:
every exponent in `(old, b − tol]` keeps the ESS above the target, every exponent in
`[b + tol, max_beta)` drops it below.  Also the ESS returned is the ESS of the exponent returned. -/
theorem bisect_optimal (c : Consts) (ess : Rat → Ans) (E : Rat → Rat)
    (hE : ∀ b e, ess b = .val e → e = E b) (hanti : Antitone E)
    (old prev b e : Rat) (htol : 0 < c.tol) (hfuel : c.maxBeta - old ≤ c.tol * 2 ^ fuel)
    (h : computeBeta c ess old prev = .done b e false) :
    e = E b ∧
    (E b = rN c prev ∨
     ((∀ x, old < x → x ≤ b - c.tol → rN c prev < E x) ∧
      (∀ x, b + c.tol ≤ x → x < c.maxBeta → E x < rN c prev))) := by
  obtain ⟨hw, r, hr, hb⟩ := computeBeta_done h
  rcases hb with ⟨_, _, hcl⟩ | ⟨_, rfl, _⟩
  · cases hcl
  · exact ⟨hE _ _ (hr.ess_eq (Or.inr ⟨hw, Nat.succ_pos _⟩)), hr.optimal_start hE hanti htol hfuel⟩

/-- ★ optimality, clamped case: the exponent is set to 1 only when the target is still met by
every exponent up to `1 − tol` (so the whole remaining increment is admissible) -/
theorem bisect_clamp_justified (c : Consts) (ess : Rat → Ans) (E : Rat → Rat)
    (hE : ∀ b e, ess b = .val e → e = E b) (hanti : Antitone E)
    (old prev b e : Rat) (htol : 0 < c.tol) (hfuel : c.maxBeta - old ≤ c.tol * 2 ^ fuel)
    (h : computeBeta c ess old prev = .done b e true) :
    b = 1 ∧ ∀ x, old < x → x ≤ 1 - c.tol → rN c prev ≤ E x := by
  obtain ⟨hw, r, hr, hb⟩ := computeBeta_done h
  rcases hb with ⟨h1, rfl, _⟩ | ⟨_, _, hcl⟩
  · refine ⟨rfl, fun x hx1 hx2 => ?_⟩
    rcases hr.optimal_start hE hanti htol hfuel with heq | ⟨hlo, _⟩
    · exact heq.ge.trans (hanti (by linarith))
    · exact (hlo x hx1 (by linarith)).le
  · cases hcl

/-! ## 2. importance weights and evidence -/

theorem sumL_eq_sum (w : List Rat) : sumL w = w.sum := rfl

theorem sumL_ge_mem (w : List Rat) (h : ∀ x ∈ w, 0 ≤ x) (a : Rat) (ha : a ∈ w) : a ≤ sumL w :=
  List.single_le_sum h a ha

theorem sumL_map_div (w : List Rat) (s : Rat) : sumL (w.map (· / s)) = sumL w / s := by
  induction w with
  | nil => exact (zero_div s).symm
  | cons a t ih => simp only [sumL, List.map_cons, List.foldr_cons] at *; rw [ih, add_div]

/-- ★ the importance weights are a probability vector -/
theorem weights_probability_vector (w : List Rat) (hnn : ∀ x ∈ w, 0 ≤ x) (hpos : 0 < sumL w) :
    (∀ y ∈ weights w, 0 ≤ y) ∧ sumL (weights w) = 1 ∧ (weights w).length = w.length := by
  refine ⟨fun y hy => ?_, ?_, List.length_map _⟩
  · obtain ⟨x, hx, rfl⟩ := List.mem_map.mp hy
    exact div_nonneg (hnn x hx) hpos.le
  · rw [weights, sumL_map_div, div_self hpos.ne']

/-- ★ …proportional to the unnormalised weights `likelihood^(increment)` supplied as `w`:
one positive constant `k = 1/Σw` scales every entry -/
theorem weights_proportional (w : List Rat) (hpos : 0 < sumL w) :
    ∃ k : Rat, 0 < k ∧ weights w = w.map (k * ·) :=
  ⟨(sumL w)⁻¹, inv_pos.mpr hpos, List.map_congr_left fun x _ => div_eq_inv_mul x _⟩

/-- ★ the evidence update takes the logarithm of a number in `(0, ∞)`: some unnormalised weight is
1 (the particle with maximal likelihood), so `Σw ≥ 1` and `Σw / N ≥ 1/N > 0` -/
theorem evidence_finite (w : List Rat) (hnn : ∀ x ∈ w, 0 ≤ x) (hone : (1 : Rat) ∈ w) :
    1 ≤ sumL w ∧ 0 < evidenceArg w ∧ 1 / (w.length : Rat) ≤ evidenceArg w := by
  have h1 : 1 ≤ sumL w := sumL_ge_mem w hnn 1 hone
  have hlen : 0 < (w.length : Rat) := Nat.cast_pos.mpr (List.length_pos_of_mem hone)
  exact ⟨h1, div_pos (zero_lt_one.trans_le h1) hlen, div_le_div_of_nonneg_right h1 hlen.le⟩

/-! ## 3. the Metropolis–Hastings kernel -/

theorem mhStep_spec {β : Rat} {s : MState} {p : Proposal} {lus : List Rat} {s' : MState} {rest : List Rat} {cd : Nat}
    (h : mhStep β s p lus = some (s', rest, cd)) :
    (cd = 2 ↔ ∃ la lu, logAcc β s p = some la ∧ lus = lu :: rest ∧ lu < la) ∧
    (s' = s ∨ (cd = 2 ∧ s' = accept β s p)) := by
  revert h
  fun_cases mhStep β s p lus with
  | case1 lus hla =>
    intro h
    obtain ⟨rfl, _, rfl⟩ := Prod.mk.inj (Option.some.inj h)
    refine ⟨iff_of_false (by split_ifs <;> decide) ?_, Or.inl rfl⟩
    rintro ⟨la, _, h1, _⟩
    cases hla.symm.trans h1
  | case2 => nofun
  | case3 la hla lu rest' hlt =>
    intro h
    obtain ⟨rfl, rfl, rfl⟩ := Prod.mk.inj (Option.some.inj h)
    exact ⟨iff_of_true rfl ⟨la, lu, hla, rfl, hlt⟩, Or.inr ⟨rfl, rfl⟩⟩
  | case4 la hla lu rest' hlt =>
    intro h
    obtain ⟨rfl, rfl, rfl⟩ := Prod.mk.inj (Option.some.inj h)
    refine ⟨iff_of_false (by decide) ?_, Or.inl rfl⟩
    rintro ⟨la', lu', h1, h2, h3⟩
    obtain rfl := Option.some.inj (hla.symm.trans h1)
    obtain ⟨rfl, _⟩ := List.cons.inj h2
    exact hlt h3

/-- ★ acceptance rule: a step accepts iff the log-acceptance is finite and the next log-uniform is
below it -/
theorem mh_accept_iff (β : Rat) (s : MState) (p : Proposal) (lus : List Rat) (s' : MState)
    (rest : List Rat) (cd : Nat) (h : mhStep β s p lus = some (s', rest, cd)) :
    cd = 2 ↔ ∃ la lu, logAcc β s p = some la ∧ lus = lu :: rest ∧ lu < la :=
  (mhStep_spec h).1

/-- …which is acceptance with probability `min(1, ratio)`: for a strictly increasing `exp`,
`log u < log_acceptance ⇔ u < min(1, exp(log_acceptance))` for every `u = exp(log u) < 1` -/
theorem accept_iff_uniform_lt_min {K : Type*} [LinearOrder K] [One K] (ex : Rat → K) (hex : StrictMono ex)
    (lu la : Rat) (hu : ex lu < 1) : lu < la ↔ ex lu < min 1 (ex la) := by
  rw [lt_min_iff, hex.lt_iff_lt]
  exact (and_iff_right hu).symm

theorem accept_prior_finite (β : Rat) (s : MState) (p : Proposal) (la : Rat)
    (h : logAcc β s p = some la) : p.prior.isSome := by
  unfold logAcc propLP at h
  cases hp : p.prior with
  | none => rw [hp] at h; simp [EV.sub] at h
  | some v => rfl

theorem mhRun_invariant (P : MState → Prop) (β : Rat) (ps : List Proposal)
    (hacc : ∀ p ∈ ps, ∀ s la, P s → logAcc β s p = some la → P (accept β s p))
    (s : MState) (lus : List Rat) (s' : MState) (rest : List Rat) (cs : List Nat)
    (h0 : P s) (h : mhRun β s ps lus = some (s', rest, cs)) : P s' := by
  fun_induction mhRun β s ps lus generalizing cs with
  | case1 =>
    obtain ⟨rfl, _⟩ := Prod.mk.inj (Option.some.inj h)
    exact h0
  | case2 => cases h
  | case3 => cases h
  | case4 s p ps lus s1 lus1 c1 hstep s2 lus2 cs2 hrun ih =>
    obtain ⟨rfl, rfl, _⟩ := Prod.mk.inj (Option.some.inj h)
    refine ih (fun q hq => hacc q (List.mem_cons_of_mem _ hq)) cs2 ?_ hrun
    obtain ⟨hcd, rfl | ⟨h2, rfl⟩⟩ := mhStep_spec hstep
    · exact h0
    · obtain ⟨la, _, hla, _⟩ := hcd.mp h2
      exact hacc p List.mem_cons_self s la h0 hla

/-- ★ a Metropolis–Hastings run never leaves the support of the prior: `InS` is any predicate that
holds at the start and at every proposal whose log-prior is finite -/
theorem mh_support (InS : List Rat → Prop) (β : Rat) (ps : List Proposal) :
    ∀ (s : MState) (lus : List Rat) (s' : MState) (rest : List Rat) (cs : List Nat),
    InS s.x → (∀ p ∈ ps, p.prior.isSome → InS p.x) →
    mhRun β s ps lus = some (s', rest, cs) → InS s'.x := fun s lus s' rest cs h0 hp =>
  mhRun_invariant (fun s => InS s.x) β ps (fun p hm s la _ hla => hp p hm (accept_prior_finite β s p la hla))
    s lus s' rest cs h0

/-- the invariant "stored log-likelihood and tempered log-posterior are those of the state at β" -/
def Consistent (priorF likF : List Rat → EV) (β : Rat) (x : List Rat) (lik post : EV) : Prop :=
  lik = likF x ∧ post = EV.add (priorF x) (EV.smul β (likF x))

/-- ★ the state returned by a run carries its own log-likelihood and tempered log-posterior at the
current exponent, provided the entry state does (see `retemper_invariant`) and the proposal
records are the prior / likelihood of their points -/
theorem mh_consistent (priorF likF : List Rat → EV) (β : Rat) (ps : List Proposal) :
    ∀ (s : MState) (lus : List Rat) (s' : MState) (rest : List Rat) (cs : List Nat),
    Consistent priorF likF β s.x s.lik s.post →
    (∀ p ∈ ps, p.prior = priorF p.x ∧ (p.prior.isSome → p.lik = likF p.x)) →
    mhRun β s ps lus = some (s', rest, cs) → Consistent priorF likF β s'.x s'.lik s'.post := by
  intro s lus s' rest cs h0 hp
  refine mhRun_invariant (fun s => Consistent priorF likF β s.x s.lik s.post) β ps ?_ s lus s' rest cs h0
  intro p hm s la _ hla
  -- an accepted proposal has a finite log-prior, so its record is that of its point
  have hfin := accept_prior_finite β s p la hla
  obtain ⟨hpr, hlk⟩ := hp p hm
  obtain ⟨v, hv⟩ := Option.isSome_iff_exists.mp hfin
  unfold Consistent accept propLP
  simp only [hv]
  rw [← hpr, hv, ← hlk hfin]
  exact ⟨rfl, rfl⟩

/-! ## 4. the stage loop -/

/-- ★ re-tempering establishes the entry invariant of the MH kernel at the new exponent -/
theorem retemper_invariant (priorF likF : List Rat → EV) (β β' : Rat) (p : Particle)
    (h : Consistent priorF likF β p.x p.lik p.post) :
    Consistent priorF likF β' (retemper (β' - β) p).x (retemper (β' - β) p).lik (retemper (β' - β) p).post := by
  obtain ⟨h1, h2⟩ := h
  unfold retemper Consistent
  simp only
  refine ⟨h1, ?_⟩
  rw [h2, h1]
  cases priorF p.x <;> cases likF p.x <;> simp [EV.add, EV.smul]
  ring

def PopOK (InS : List Rat → Prop) (priorF likF : List Rat → EV) (β : Rat) (ps : List Particle) : Prop :=
  ∀ p ∈ ps, InS p.x ∧ Consistent priorF likF β p.x p.lik p.post

/-- all proposal records of a stage are faithful to `priorF`, `likF`, and finite log-prior means
inside the support -/
def MovesOK (InS : List Rat → Prop) (priorF likF : List Rat → EV) (ms : List Move) : Prop :=
  ∀ m ∈ ms, ∀ q ∈ m.props, (q.prior.isSome → InS q.x) ∧ q.prior = priorF q.x ∧ (q.prior.isSome → q.lik = likF q.x)

theorem resample_mem (ps : List Particle) (ids : List Nat) (cap : List Particle)
    (h : resample ps ids = some cap) : cap.length = ids.length ∧ ∀ p ∈ cap, p ∈ ps := by
  unfold resample at h
  induction ids generalizing cap with
  | nil =>
    obtain rfl := Option.some.inj h
    exact ⟨rfl, fun _ hp => absurd hp List.not_mem_nil⟩
  | cons i is ih =>
    rw [List.mapM_cons] at h
    cases hi : ps[i]? with
    | none => simp [hi] at h
    | some a =>
      cases hr : List.mapM (fun i => ps[i]?) is with
      | none => simp [hi, hr] at h
      | some t =>
        simp [hi, hr] at h
        subst h
        obtain ⟨hl, hm⟩ := ih t hr
        refine ⟨congrArg Nat.succ hl, fun p hp => ?_⟩
        rcases List.mem_cons.mp hp with rfl | hp'
        · exact List.mem_of_getElem? hi
        · exact hm p hp'

theorem mutate_ok {InS : List Rat → Prop} {priorF likF : List Rat → EV} {β : Rat} {p : Particle} {m : Move}
    {r : Particle × Nat} (hin : InS p.x) (hcons : Consistent priorF likF β p.x p.lik p.post)
    (hm : ∀ q ∈ m.props, (q.prior.isSome → InS q.x) ∧ q.prior = priorF q.x ∧ (q.prior.isSome → q.lik = likF q.x))
    (h : mutate β p m = some r) : InS r.1.x ∧ Consistent priorF likF β r.1.x r.1.lik r.1.post := by
  unfold mutate at h
  split at h
  · cases h
  · rename_i s rest cs hrun
    obtain rfl := Option.some.inj h
    exact ⟨mh_support InS β m.props _ m.lus s rest cs hin (fun q hq => (hm q hq).1) hrun,
      mh_consistent priorF likF β m.props _ m.lus s rest cs hcons (fun q hq => (hm q hq).2) hrun⟩

theorem mutateAll_ok (InS : List Rat → Prop) (priorF likF : List Rat → EV) (β : Rat) :
    ∀ (cap : List Particle) (ms : List Move) (nxt : List (Particle × Nat)),
    PopOK InS priorF likF β cap → MovesOK InS priorF likF ms →
    mutateAll β cap ms = some nxt →
    nxt.length = cap.length ∧ PopOK InS priorF likF β (nxt.map (·.1)) := by
  intro cap ms nxt hpop hmv h
  fun_induction mutateAll β cap ms generalizing nxt with
  | case1 =>
    obtain rfl := Option.some.inj h
    exact ⟨rfl, fun _ hp => absurd hp List.not_mem_nil⟩
  | case2 p cap m ms r rs hrs hr ih =>
    obtain rfl := Option.some.inj h
    obtain ⟨hl, hok⟩ := ih rs (fun q hq => hpop q (List.mem_cons_of_mem _ hq))
      (fun m' hm' => hmv m' (List.mem_cons_of_mem _ hm')) hrs
    refine ⟨congrArg Nat.succ hl, List.forall_mem_cons.mpr ⟨?_, hok⟩⟩
    obtain ⟨hin, hcons⟩ := hpop p List.mem_cons_self
    exact mutate_ok hin hcons (hmv m List.mem_cons_self) hr
  | case3 => cases h
  | case4 => cases h

/-- ★ one pass of the stage loop: from a population of `N` consistent particles inside the support
at `β` it produces `N` resampled and `N` mutated particles, all inside the support and consistent
at the new exponent `β'` -/
theorem stage_invariant (InS : List Rat → Prop) (priorF likF : List Rat → EV) (β β' : Rat)
    (ps : List Particle) (ids : List Nat) (ms : List Move) (cap : List Particle) (nxt : List (Particle × Nat))
    (hpop : PopOK InS priorF likF β ps) (hmv : MovesOK InS priorF likF ms)
    (h : stage β β' ps ids ms = some (cap, nxt)) :
    cap.length = ps.length ∧ nxt.length = ps.length ∧
    PopOK InS priorF likF β' cap ∧ PopOK InS priorF likF β' (nxt.map (·.1)) := by
  revert h
  fun_cases stage β β' ps ids ms with
  | case1 => nofun
  | case2 => nofun
  | case3 => nofun
  | case4 hlen cap' hres nxt' hmut =>
    intro h
    obtain ⟨rfl, rfl⟩ := Prod.mk.inj (Option.some.inj h)
    obtain ⟨hl, hmem⟩ := resample_mem _ _ _ hres
    have hcap : PopOK InS priorF likF β' cap' := by
      intro p hp
      obtain ⟨p0, hp0, rfl⟩ := List.mem_map.mp (hmem p hp)
      exact ⟨(hpop p0 hp0).1, retemper_invariant priorF likF β β' p0 (hpop p0 hp0).2⟩
    obtain ⟨hl2, hok2⟩ := mutateAll_ok InS priorF likF β' cap' ms nxt' hcap hmv hmut
    have hlen' : cap'.length = ps.length := hl.trans (not_not.mp hlen)
    exact ⟨hlen', hl2.trans hlen', hcap, hok2⟩

/-- ★ shape of the trace: every stage records `N` particles, all inside the prior support -/
theorem trace_shape (InS : List Rat → Prop) (priorF likF : List Rat → EV) :
    ∀ (ss : List StageIn) (β : Rat) (ps : List Particle) (tr : List (List Particle)),
    PopOK InS priorF likF β ps → (∀ s ∈ ss, MovesOK InS priorF likF s.moves) →
    runStages β ps ss = some tr →
    tr.length = ss.length + 1 ∧ ∀ pop ∈ tr, pop.length = ps.length ∧ ∀ p ∈ pop, InS p.x := by
  intro ss β ps tr hpop hmv h
  fun_induction runStages β ps ss generalizing tr with
  | case1 =>
    obtain rfl := Option.some.inj h
    exact ⟨rfl, List.forall_mem_singleton.mpr ⟨rfl, fun p hp => (hpop p hp).1⟩⟩
  | case2 => cases h
  | case3 => cases h
  | case4 β ps s ss cap nxt hst tr' hrun ih =>
    obtain rfl := Option.some.inj h
    obtain ⟨_, hl2, _, hok⟩ := stage_invariant InS priorF likF β s.beta ps s.ids s.moves cap nxt hpop
      (hmv s List.mem_cons_self) hst
    obtain ⟨hlen, hall⟩ := ih tr' hok (fun t ht => hmv t (List.mem_cons_of_mem _ ht)) hrun
    refine ⟨congrArg Nat.succ hlen, List.forall_mem_cons.mpr ⟨⟨rfl, fun p hp => (hpop p hp).1⟩, fun pop hp => ?_⟩⟩
    obtain ⟨h1, h2⟩ := hall pop hp
    exact ⟨by rw [h1, List.length_map, hl2], h2⟩

/-! ## 4b. the whole loop: exponents produced by the bisection, populations by the stage step -/

/-- successive recorded exponents: strictly increasing (and at most 1) while below 1; after 1 only the
terminal entry 1 follows -/
def StepOK (a b : Rat) : Prop := (a < 1 ∧ a < b ∧ b ≤ 1) ∨ (a = 1 ∧ b = 1)

/-- where the loop stops: the exponent is 1 and the terminal entry `(1, Sm)` is recorded -/
theorem run_stop {InS : List Rat → Prop} {priorF likF : List Rat → EV} {β : Rat} {ps : List Particle}
    (hβ : β ≤ 1) (hlt : ¬ β < 1) (hpop : PopOK InS priorF likF β ps) :
    List.IsChain StepOK (β :: [((1 : Rat), ps)].map (·.1)) ∧
    (∀ e ∈ [((1 : Rat), ps)], e.2.length = ps.length ∧ ∀ p ∈ e.2, InS p.x) ∧
    (true = true → ([((1 : Rat), ps)].map (·.1)).getLast? = some 1) := by
  refine ⟨List.IsChain.cons_cons (Or.inr ⟨le_antisymm hβ (not_lt.mp hlt), rfl⟩) (List.IsChain.singleton _),
    fun e he => ?_, fun _ => rfl⟩
  obtain rfl := List.mem_singleton.mp he
  exact ⟨rfl, fun p hp => (hpop p hp).1⟩

/-- ★ the statement for the executed stage loop, for an arbitrary ESS oracle per stage: every recorded
exponent strictly exceeds the previous one and is at most 1; if the loop terminates, the last stage has
exponent exactly 1 (the terminal entry 1 can only follow an entry equal to 1); every stage records `N`
particles, all inside the prior support. -/
theorem run_statement (InS : List Rat → Prop) (priorF likF : List Rat → EV) (c : Consts) (htol : 0 ≤ c.tol) :
    ∀ (envs : List StageEnv) (β prev : Rat) (ps : List Particle) (tr : List (Rat × List Particle)) (fin : Bool),
    β ≤ 1 → PopOK InS priorF likF β ps → (∀ e ∈ envs, MovesOK InS priorF likF e.moves) →
    runLoop c envs β prev ps = .ok tr fin →
    List.IsChain StepOK (β :: tr.map (·.1)) ∧
    (∀ e ∈ tr, e.2.length = ps.length ∧ ∀ p ∈ e.2, InS p.x) ∧
    (fin = true → (tr.map (·.1)).getLast? = some 1) := by
  intro envs β prev ps tr fin hβ hpop hmv h
  fun_induction runLoop c envs β prev ps generalizing tr fin with
  | case1 =>
    obtain ⟨rfl, rfl⟩ := RunRes.ok.inj h
    exact ⟨List.IsChain.singleton _, fun _ he => absurd he List.not_mem_nil, fun hf => absurd hf Bool.false_ne_true⟩
  | case2 β _ ps hlt =>
    obtain ⟨rfl, rfl⟩ := RunRes.ok.inj h
    exact run_stop hβ hlt hpop
  | case3 => cases h
  | case4 => cases h
  | case5 => cases h
  | case6 e es β prev ps hlt b' ess' cl hcb cap nxt hst tr' fin' hrec ih =>
    obtain ⟨rfl, rfl⟩ := RunRes.ok.inj h
    have hgt := beta_strictly_increases c e.ess β prev b' ess' cl htol hlt hcb
    have hle := beta_le_one c e.ess β prev b' ess' cl hcb
    obtain ⟨_, hl2, _, hok⟩ := stage_invariant InS priorF likF β b' ps e.ids e.moves cap nxt hpop
      (hmv e List.mem_cons_self) hst
    obtain ⟨hch, hsh, hfin⟩ := ih tr' fin' hle hok (fun t ht => hmv t (List.mem_cons_of_mem _ ht)) hrec
    refine ⟨List.IsChain.cons_cons (Or.inl ⟨hlt, hgt, hle⟩) hch,
      List.forall_mem_cons.mpr ⟨⟨rfl, fun p hp => (hpop p hp).1⟩, fun x hx => ?_⟩, fun hf => ?_⟩
    · obtain ⟨h1, h2⟩ := hsh x hx
      exact ⟨by rw [h1, List.length_map, hl2], h2⟩
    · -- the recursive trace is not empty when the run is finished, so its last entry is the last entry
      have := hfin hf
      cases tr' with
      | nil => cases this
      | cons a t => exact (List.getLast?_cons_cons).trans this
  | case7 =>
    -- the recursive call returned no trace
    rename_i hne _
    exact absurd h (hne _ _)
  | case8 e es β prev ps hlt =>
    obtain ⟨rfl, rfl⟩ := RunRes.ok.inj h
    exact run_stop hβ hlt hpop

/-! ## 5. non-vacuity: concrete instances of the hypotheses used above -/

/-- a step-shaped antitone ESS: 100 up to exponent 1/4, then 90 (target 95 for `prev = 100`) -/
def exE (b : Rat) : Rat := if b ≤ 1/4 then 100 else 90

example : Antitone exE := by
  intro a b hab
  unfold exE
  by_cases hb : b ≤ 1/4
  · rw [if_pos hb, if_pos (hab.trans hb)]
  · rw [if_neg hb]
    split_ifs
    · norm_num
    · exact le_rfl

/-- the bisection on `exE` stops unclamped within `1e-8` of the threshold `1/4` -/
example : (match computeBeta consts (fun b => .val (exE b)) 0 100 with
    | .done b e false => decide (1/4 - 1/100000000 ≤ b ∧ b ≤ 1/4 + 1/100000000 ∧ e = exE b)
    | _ => false) = true := by decide +kernel

/-- flat log-likelihoods: ESS stays at `N`, the exponent is clamped to 1 -/
example : computeBeta consts (fun _ => .val 60) 0 60 = .done 1 60 true := by decide +kernel

/-- the `ESS == rN` break: returns the first midpoint -/
example : computeBeta consts (fun _ => .val 95) 0 100 = .done 1 95 true := by decide +kernel
example : computeBeta consts (fun _ => .val 95) (1/2) 100 = .done 1 95 true := by decide +kernel

/-- hypotheses of `bisect_fuel_suffices` / `bisect_optimal` hold for every `old ≥ 0` with the code's constants -/
example (old : Rat) (h : 0 ≤ old) : consts.maxBeta - old ≤ consts.tol * 2 ^ fuel := by
  have : consts.maxBeta = 2 := rfl
  have h2 : consts.tol = 1/100000000 := rfl
  rw [this, h2]; norm_num [fuel]; linarith

/-- the NaN answer raises, an unanswered query is reported, `old ≥ 2 − 1e-8` is `UnboundLocalError` -/
example : computeBeta consts (fun _ => .nan) 0 60 = .raise .Value := by decide +kernel
example : computeBeta consts (tableEss [(1, .val 40)]) 0 100 = .need (1/2) := by decide +kernel
example : computeBeta consts (fun _ => .val 60) 2 60 = .raise .Unbound := by decide +kernel

/-- weights: `exp` values `[1, 1/2, 1/2]` -/
example : weights [1, 1/2, 1/2] = [1/2, 1/4, 1/4] ∧ evidenceArg [1, 1/2, 1/2] = 2/3 := by decide +kernel
example : (∀ x ∈ ([1, 1/2, 1/2] : List Rat), 0 ≤ x) ∧ (1 : Rat) ∈ ([1, 1/2, 1/2] : List Rat) ∧ 0 < sumL [1, 1/2, 1/2] := by
  decide +kernel

/-- uniform prior on `[0,1]` (log-density 0 inside, `-inf` outside) and log-likelihood `−x` -/
def exPrior (x : List Rat) : EV := if x.all (fun v => decide (0 ≤ v ∧ v ≤ 1)) then some 0 else none
def exLik (x : List Rat) : EV := some (-(sumL x))
def exIn (x : List Rat) : Prop := x.all (fun v => decide (0 ≤ v ∧ v ≤ 1)) = true

def exProps : List Proposal :=
  [⟨[3/2], none, none⟩, ⟨[1/4], some 0, some (-1/4)⟩, ⟨[3/4], some 0, some (-3/4)⟩]

/-- an MH run at `β = 1/2` from `x = 1/2`: outside the support (no uniform used), accepted, rejected -/
example : mhRun (1/2) ⟨[1/2], some (-1/2), some (-1/4), 0⟩ exProps [-1, -1/8]
    = some (⟨[1/4], some (-1/4), some (-1/8), 1⟩, [], [0, 2, 1]) := by decide +kernel

example : Consistent exPrior exLik (1/2) [1/2] (some (-1/2)) (some (-1/4)) := by
  unfold Consistent; decide +kernel

example : ∀ p ∈ exProps, (p.prior.isSome → exIn p.x) ∧ p.prior = exPrior p.x ∧ (p.prior.isSome → p.lik = exLik p.x) := by
  unfold exIn; decide +kernel

/-- a two-particle, one-stage run: re-temper 0 → 1/2, resample `[1,1]`, mutate -/
def exPop : List Particle := [⟨[1/2], some (-1/2), some 0⟩, ⟨[1/4], some (-1/4), some 0⟩]
def exStage : StageIn := ⟨1/2, [1, 1], [⟨exProps, [-1, -1/8]⟩, ⟨[], []⟩]⟩

example : runStages 0 exPop [exStage]
    = some [exPop, [⟨[1/4], some (-1/4), some (-1/8)⟩, ⟨[1/4], some (-1/4), some (-1/8)⟩]] := by decide +kernel

example : PopOK exIn exPrior exLik 0 exPop := by
  unfold PopOK Consistent exIn; decide +kernel

example : MovesOK exIn exPrior exLik exStage.moves := by
  unfold MovesOK exIn; decide +kernel

/-- `exp`-form of the acceptance rule instantiated with a strictly increasing map on ℚ -/
example : StrictMono (fun x : Rat => x + 1) := fun a b h => by simpa using h

/-- a whole run: two particles, one stage whose ESS never drops (exponent clamped to 1), then the loop
stops; the trace is `[(1, exPop), (1, mutated)]` and the run is finished -/
example : (match runLoop consts [⟨fun _ => .val 60, [1, 1], [⟨exProps, [-1, -1/8]⟩, ⟨[], []⟩]⟩] 0 2 exPop with
    | .ok tr true => decide (tr.map (·.1) = [1, 1]) && (tr.map (·.2.length) == [2, 2])
    | _ => false) = true := by decide +kernel

end Pun.Tmcmc
