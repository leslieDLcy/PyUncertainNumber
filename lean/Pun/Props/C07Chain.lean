import Pun.Props.C07Route
/-!
# C07 — histories: an operation applied to the result of a mixed-kind operation

`chain_agrees`: for `(a op1 b) op2 c`, `a op1 (b op2 c)`, `(a op1 b) op2 a` with operands of any kinds
(numbers, intervals, p-boxes, precise distributions, DS structures), every dependency: if the history with
every operand converted to a p-box first answers `z`, the Python history — number / interval
sub-expressions evaluated by Python / interval arithmetic, everything else through the dispatch graph —
answers an object whose conversion is `z`.  Built from `step_agrees` (one step, any kinds), which combines
`route_agrees'` (mixed pairs), `low_expr` (number / interval pairs: `arith_num_left/right` reduce a Python
number to the degenerate interval, then `embed_op`) and `binop_wf` (results stay valid operands).
-/
namespace Pun.Hier
open Pun Pun.PBox

/-! ## a Python number in interval arithmetic is the degenerate interval -/

theorem mkIV_sorted (u v : Rat) :
    (u ≤ v → Arith.mkIV none [u] [v] = .ok (.I (min u v) (max u v))) ∧
    (v ≤ u → Arith.mkIV none [v] [u] = .ok (.I (min u v) (max u v))) :=
  ⟨fun h => by rw [min_eq_left h, max_eq_right h]; exact Arith.mkIV_scalar h,
   fun h => by rw [min_eq_right h, max_eq_left h]; exact Arith.mkIV_scalar h⟩

theorem arith_num_right (o : Op) (a b y : Rat) (hab : a ≤ b) :
    Arith.binop (toArith o) (.I a b) (.N y) = Arith.binop (toArith o) (.I a b) (.I y y) := by
  cases o with
  | add => exact (Arith.mkIV_scalar (add_le_add hab le_rfl)).trans (Arith.binop_II_add a b y y hab le_rfl).symm
  | sub => exact (Arith.mkIV_scalar (sub_le_sub hab le_rfl)).trans (Arith.binop_II_sub a b y y hab le_rfl).symm
  | mul =>
    rw [toArith, arith_mul a b y y hab le_rfl, (corners_point (a*y) (b*y)).1.1, (corners_point (a*y) (b*y)).1.2]
    show Arith.mulNum (Arith.IV.ofI a b) y = _
    unfold Arith.mulNum
    split
    · rename_i hy
      exact (mkIV_sorted (a*y) (b*y)).1 (mul_le_mul_of_nonneg_right hab hy)
    · rename_i hy
      exact (mkIV_sorted (a*y) (b*y)).2 (mul_le_mul_of_nonpos_right hab (le_of_lt (not_le.mp hy)))
  | div =>
    rcases lt_trichotomy y 0 with hy | hy | hy
    · rw [toArith, arith_div a b y y hab le_rfl (Or.inr hy), (corners_point _ _).1.1, (corners_point _ _).1.2,
        ← div_eq_mul_one_div, ← div_eq_mul_one_div]
      show Arith.divNum (Arith.IV.ofI a b) y = _
      unfold Arith.divNum
      rw [if_neg (ne_of_lt hy), if_neg (not_lt.mpr hy.le)]
      exact (mkIV_sorted (a / y) (b / y)).2 (div_le_div_of_nonpos_of_le hy.le hab)
    · subst hy
      rw [toArith, Arith.binop_II_div_zero a b 0 0 ⟨le_rfl, le_rfl⟩]
      exact Arith.divNum_zero_raises (Arith.IV.ofI a b)
    · rw [toArith, arith_div a b y y hab le_rfl (Or.inl hy), (corners_point _ _).1.1, (corners_point _ _).1.2,
        ← div_eq_mul_one_div, ← div_eq_mul_one_div]
      show Arith.divNum (Arith.IV.ofI a b) y = _
      unfold Arith.divNum
      rw [if_neg (ne_of_gt hy), if_pos hy]
      exact (mkIV_sorted (a / y) (b / y)).1 (div_le_div_of_nonneg_right hab hy.le)

theorem arith_num_left (o : Op) (x c d : Rat) (hcd : c ≤ d) :
    Arith.binop (toArith o) (.N x) (.I c d) = Arith.binop (toArith o) (.I x x) (.I c d) := by
  cases o with
  | add =>
    rw [toArith, Arith.binop_II_add x x c d le_rfl hcd, add_comm x c, add_comm x d]
    exact Arith.mkIV_scalar (add_le_add hcd le_rfl)
  | sub => exact (Arith.mkIV_scalar (sub_le_sub le_rfl hcd)).trans (Arith.binop_II_sub x x c d le_rfl hcd).symm
  | mul =>
    rw [toArith, arith_mul x x c d le_rfl hcd, min4_swap c d x x, max4_swap c d x x,
      (corners_point (c*x) (d*x)).1.1, (corners_point (c*x) (d*x)).1.2]
    show Arith.mulNum (Arith.IV.ofI c d) x = _
    unfold Arith.mulNum
    split
    · rename_i hx
      exact (mkIV_sorted (c*x) (d*x)).1 (mul_le_mul_of_nonneg_right hcd hx)
    · rename_i hx
      exact (mkIV_sorted (c*x) (d*x)).2 (mul_le_mul_of_nonpos_right hcd (le_of_lt (not_le.mp hx)))
  | div =>
    by_cases hz : c ≤ 0 ∧ 0 ≤ d
    · rw [toArith, Arith.binop_II_div_zero x x c d hz]
      exact Arith.rdiv_straddle_raises c d x hz
    · have h0 := Arith.not_straddle_cases hz
      have hle := one_div_anti c d hcd h0
      have hs : Arith.straddles (Arith.IV.ofI c d) = false := by
        simpa [Arith.straddles, Arith.IV.ofI] using hz
      rw [toArith, arith_div x x c d le_rfl hcd h0, (corners_point _ _).2.1, (corners_point _ _).2.2,
        ← div_eq_mul_one_div, ← div_eq_mul_one_div]
      show Arith.rdivNum (Arith.IV.ofI c d) x = _
      unfold Arith.rdivNum
      rw [hs]
      simp only [Bool.false_eq_true, if_false]
      split
      · rename_i hx
        refine (mkIV_sorted (x / d) (x / c)).1 ?_
        rw [div_eq_mul_one_div x d, div_eq_mul_one_div x c]
        exact mul_le_mul_of_nonneg_left hle hx
      · rename_i hx
        refine (mkIV_sorted (x / d) (x / c)).2 ?_
        rw [div_eq_mul_one_div x d, div_eq_mul_one_div x c]
        exact mul_le_mul_of_nonpos_left hle (le_of_lt (not_le.mp hx))

/-! ## results stay well formed; number / interval sub-expressions -/

theorem binop_wf (n : Nat) (o : Op) (d : Dep) (X Y P : PB) (hX : WF n X) (hY : WF n Y)
    (h : binop n o d X Y = .ok P) : WF n P := by
  cases o with
  | add => exact wf_of_c04 (Pun.WF.add_wf n d X Y P (wf_c04 hX) (wf_c04 hY) h)
  | sub => exact wf_of_c04 (Pun.WF.sub_wf n d X Y P (wf_c04 hX) (wf_c04 hY) h)
  | mul => exact wf_of_c04 (Pun.WF.mul_wf n d X Y P (wf_c04 hX) (wf_c04 hY) h)
  | div => exact wf_of_c04 (Pun.WF.divC_wf n d X Y P (wf_c04 hX) (wf_c04 hY) h)

theorem le_of_wf_ofIvl (n : Nat) (hn : 0 < n) (a b : Rat) (h : WF n (ofIvl n a b)) : a ≤ b := by
  obtain ⟨k, rfl⟩ : ∃ k, n = k + 1 := ⟨n - 1, by omega⟩
  have := h.le
  simp only [ofIvl, List.replicate_succ] at this
  cases this with
  | cons h0 _ => exact h0

theorem ivl_ivl_expr (n : Nat) (hn : 0 < n) (d : Dep) (hd : d ≠ .unknown) (o : Op) (a b c e : Rat)
    (hab : a ≤ b) (hce : c ≤ e) (h0 : o = .div → (0 < c ∨ e < 0)) :
    ∃ lo hi, Arith.binop (toArith o) (.I a b) (.I c e) = .ok (.I lo hi) ∧ lo ≤ hi ∧
      spec n d o (.ivl a b) (.ivl c e) = .ok (ofIvl n lo hi) := by
  obtain ⟨lo, hi, h⟩ := arith_total o a b c e hab hce h0
  have hev : evalOp n d o (.ivl a b) (.ivl c e) = .ok (.ivl lo hi) := by
    simp only [evalOp, opdArith, lowOp, h, resOfArith]
  have hs := ivl_expr_embeds n hn d hd o a b c e lo hi hab hce hev
  refine ⟨lo, hi, h, ?_, hs⟩
  have e1 : convert n (.ivl a b) = .ok (ofIvl n a b) := ivlToPbox_eq n a b hab
  have e2 : convert n (.ivl c e) = .ok (ofIvl n c e) := ivlToPbox_eq n c e hce
  simp only [spec, e1, e2, ok_bind] at hs
  exact le_of_wf_ofIvl n hn lo hi (binop_wf n o d _ _ _ (wf_ofIvl n a b hab) (wf_ofIvl n c e hce) hs)

/-- **a sub-expression on numbers / intervals** is evaluated in the simpler calculus; its result, converted,
is the converted-first result -/
theorem low_expr (n : Nat) (hn : 0 < n) (d : Dep) (hd : d ≠ .unknown) (o : Op) (l r : Opd)
    (hl : isHigh l = false) (hr : isHigh r = false) (hvl : ValidOpd n l) (hvr : ValidOpd n r)
    (hdiv : DivisorLowOk o r) :
    ∃ res, evalOp n d o l r = .ok res ∧ isHigh res.toOpd = false ∧ ValidOpd n res.toOpd ∧
      spec n d o l r = .ok (ofIvl n (lowLo res.toOpd) (lowHi res.toOpd)) := by
  cases l with
  | pbox p => simp [isHigh] at hl
  | dist q => simp [isHigh] at hl
  | dss p => simp [isHigh] at hl
  | num x =>
    cases r with
    | pbox p => simp [isHigh] at hr
    | dist q => simp [isHigh] at hr
    | dss p => simp [isHigh] at hr
    | num y =>
      have hnat : ∃ z, native o x y = .ok (.num z) := by
        cases o with
        | add => exact ⟨_, rfl⟩
        | sub => exact ⟨_, rfl⟩
        | mul => exact ⟨_, rfl⟩
        | div => exact ⟨x / y, by simp [native, hdiv rfl]⟩
      obtain ⟨z, hz⟩ := hnat
      have hev : evalOp n d o (.num x) (.num y) = .ok (.num z) := by simp only [evalOp, opdArith, lowOp, hz]
      exact ⟨.num z, hev, rfl, trivial, real_expr_embeds n hn d hd o x y z hev⟩
    | ivl c e =>
      obtain ⟨lo, hi, h, hle, hs⟩ := ivl_ivl_expr n hn d hd o x x c e (le_refl x) hvr hdiv
      refine ⟨.ivl lo hi, ?_, rfl, hle, hs⟩
      simp only [evalOp, opdArith, lowOp, arith_num_left o x c e hvr, h, resOfArith]
  | ivl a b =>
    cases r with
    | pbox p => simp [isHigh] at hr
    | dist q => simp [isHigh] at hr
    | dss p => simp [isHigh] at hr
    | num y =>
      have h0 : o = .div → (0 < y ∨ y < 0) := fun ho => (lt_or_gt_of_ne (hdiv ho)).symm
      obtain ⟨lo, hi, h, hle, hs⟩ := ivl_ivl_expr n hn d hd o a b y y hvl (le_refl y) h0
      refine ⟨.ivl lo hi, ?_, rfl, hle, hs⟩
      simp only [evalOp, opdArith, lowOp, arith_num_right o a b y hvl, h, resOfArith]
    | ivl c e =>
      obtain ⟨lo, hi, h, hle, hs⟩ := ivl_ivl_expr n hn d hd o a b c e hvl hvr hdiv
      refine ⟨.ivl lo hi, ?_, rfl, hle, hs⟩
      simp only [evalOp, opdArith, lowOp, h, resOfArith]

/-! ## ★ histories -/

/-- **one step of a history**: whatever the kinds of the two (valid) operands, if the p-box operation on
the converted operands answers `z`, the Python expression answers an object whose conversion is `z`
(a number / interval when both operands are, otherwise the p-box `z` itself), and that object is again
a valid operand -/
theorem step_agrees (n : Nat) (hn : 0 < n) (d : Dep) (hd : d ≠ .unknown) (o : Op) (l r : Opd)
    (hvl : ValidOpd n l) (hvr : ValidOpd n r) (hdiv : DivisorLowOk o r)
    (X Y z : PB) (hX : convert n l = .ok X) (hY : convert n r = .ok Y) (h : binop n o d X Y = .ok z) :
    ∃ res, evalOp n d o l r = .ok res ∧ ValidOpd n res.toOpd ∧ convert n res.toOpd = .ok z := by
  have hs : spec n d o l r = .ok z := by simp only [spec, hX, hY, ok_bind, h]
  by_cases hh : isHigh l = true ∨ isHigh r = true
  · obtain ⟨X', hX', wX, -, -⟩ := convert_valid n hn l hvl
    obtain ⟨Y', hY', wY, -, -⟩ := convert_valid n hn r hvr
    rw [hX] at hX'; injection hX' with e1; subst e1
    rw [hY] at hY'; injection hY' with e2; subst e2
    exact ⟨.pbox z, route_agrees' n hn d hd o l r hvl hvr hh hdiv z hs, binop_wf n o d X Y z wX wY h, rfl⟩
  · have hl : isHigh l = false := by cases hq : isHigh l <;> simp [hq] at hh ⊢
    have hr : isHigh r = false := by cases hq : isHigh r <;> simp [hq] at hh ⊢
    obtain ⟨res, hev, hlow, hval, hsp⟩ := low_expr n hn d hd o l r hl hr hvl hvr hdiv
    rw [hs] at hsp; injection hsp with e; subst e
    exact ⟨res, hev, hval, (low_eqs n hn _ hlow hval).2.1⟩

/-- **C07 for histories**: `(a op1 b) op2 c`, `a op1 (b op2 c)` and `(a op1 b) op2 a` with operands of ANY kinds.
If the history with every operand converted first answers `z`, the Python history — sub-expressions on
numbers / intervals evaluated in the simpler calculus, mixed ones through the dispatch graph — answers an
object whose conversion is `z`. -/
theorem chain_agrees (n : Nat) (hn : 0 < n) (d : Dep) (hd : d ≠ .unknown) (sh : Shape) (o1 o2 : Op) (a b c : Opd)
    (hva : ValidOpd n a) (hvb : ValidOpd n b) (hvc : ValidOpd n c)
    (hd1 : match sh with
      | .left => DivisorLowOk o1 b ∧ DivisorLowOk o2 c
      | .right => DivisorLowOk o2 c ∧ ∀ res, evalOp n d o2 b c = .ok res → DivisorLowOk o1 res.toOpd
      | .reuse => DivisorLowOk o1 b ∧ DivisorLowOk o2 a)
    (z : PB) (h : specChain n d sh o1 o2 a b c = .ok z) :
    ∃ res, evalChain n d sh o1 o2 a b c = .ok res ∧ convert n res.toOpd = .ok z := by
  unfold specChain at h
  obtain ⟨x, hx, h⟩ := bind_ok_inv h
  obtain ⟨y, hy, h⟩ := bind_ok_inv h
  obtain ⟨zc, hz, h⟩ := bind_ok_inv h
  cases sh with
  | left =>
    simp only at h hd1
    obtain ⟨r, hr, h⟩ := bind_ok_inv h
    obtain ⟨res1, e1, v1, c1⟩ := step_agrees n hn d hd o1 a b hva hvb hd1.1 x y r hx hy hr
    obtain ⟨res2, e2, v2, c2⟩ := step_agrees n hn d hd o2 res1.toOpd c v1 hvc hd1.2 r zc z c1 hz h
    exact ⟨res2, by simp only [evalChain, e1, ok_bind, e2], c2⟩
  | right =>
    simp only at h hd1
    obtain ⟨r, hr, h⟩ := bind_ok_inv h
    obtain ⟨res1, e1, v1, c1⟩ := step_agrees n hn d hd o2 b c hvb hvc hd1.1 y zc r hy hz hr
    obtain ⟨res2, e2, v2, c2⟩ := step_agrees n hn d hd o1 a res1.toOpd hva v1 (hd1.2 res1 e1) x r z hx c1 h
    exact ⟨res2, by simp only [evalChain, e1, ok_bind, e2], c2⟩
  | reuse =>
    simp only at h hd1
    obtain ⟨r, hr, h⟩ := bind_ok_inv h
    obtain ⟨res1, e1, v1, c1⟩ := step_agrees n hn d hd o1 a b hva hvb hd1.1 x y r hx hy hr
    obtain ⟨res2, e2, v2, c2⟩ := step_agrees n hn d hd o2 res1.toOpd a v1 hva hd1.2 r x z c1 hx h
    exact ⟨res2, by simp only [evalChain, e1, ok_bind, e2], c2⟩

/-- non-vacuity: `(Interval - Interval) * Distribution` under independence -/
example : ∃ z, specChain 2 .i .left .sub .mul (.ivl 1 2) (.ivl (-3) (-1)) (.dist [1, 4]) = .ok z := by
  have e1 : convert 2 (.ivl 1 2) = .ok (ofIvl 2 1 2) := ivlToPbox_eq 2 1 2 (by norm_num)
  have e2 : convert 2 (.ivl (-3) (-1)) = .ok (ofIvl 2 (-3) (-1)) := by
    simp only [convert, convertPbox]; exact ivlToPbox_eq 2 (-3) (-1) (by norm_num)
  have e0 : convert 2 (.dist [1, 4]) = .ok (ofDist [1, 4]) := rfl
  have e3 : binop 2 .sub .i (ofIvl 2 1 2) (ofIvl 2 (-3) (-1)) = .ok (ofIvl 2 (1 - -1) (2 - -3)) :=
    sub_ofIvl 2 .i (by decide) 1 2 (-3) (-1) (by decide) (by norm_num) (by norm_num)
  obtain ⟨R, hR, -⟩ := mul_total 2 (by decide) .i (by decide) (ofIvl 2 (1 - -1) (2 - -3)) (ofDist [1, 4])
    (wf_ofIvl 2 _ _ (by norm_num)) (wf_ofDist [1, 4] (by decide)) (fun h => by cases h)
  have e4 : binop 2 .mul .i (ofIvl 2 (1 - -1) (2 - -3)) (ofDist [1, 4]) = .ok R := hR
  exact ⟨R, by simp only [specChain, e1, e2, e0, ok_bind, e3, e4]⟩

end Pun.Hier
