import Pun.Lemmas.Param
import Mathlib.Algebra.Order.Field.Basic
import Mathlib.Tactic.Linarith
import Mathlib.Tactic.Ring
import Mathlib.Tactic.NormNum
/-!
# C09 — a parametric p-box encloses every distribution of its parameter box

`Qs` is the list of the family's quantile functions at the grid levels (one function of the
parameter vector per level), `M`, `V` its mean and variance; they are *parameters* of the
theorems (scipy computes them; the harness sends their values at the corners as a table).
What is assumed about them is exactly `CoordMono`: monotone (in either direction) in each
parameter separately on the box.  The instances below discharge it for the loc-scale
families (normal, Gumbel, logistic, Laplace, Rayleigh, exponential), `exp ∘ loc-scale`
(lognormal) and, with the stochastic ordering in the shape as an assumption, gamma.
-/
namespace Pun.Param
open Pun

/-- the table handed to the model holds the family's values at every corner of the box -/
def TableOf (t : Table) (b : List (Rat × Rat)) (Qs : List (List Rat → Rat)) (M V : List Rat → Rat) : Prop :=
  ∀ c ∈ corners b, lookup t c = some (some ⟨rowOf Qs c, M c, V c⟩)

def cmin (f : List Rat → Rat) (c0 : List Rat) (cs : List (List Rat)) : Rat := cs.foldl (fun m c => min m (f c)) (f c0)
def cmax (f : List Rat → Rat) (c0 : List Rat) (cs : List (List Rat)) : Rat := cs.foldl (fun m c => max m (f c)) (f c0)

/-- the moment intervals handed to the constructor: the hulls of the corner moments when they fit the
    discretised support `[lo, hi]`, otherwise `none` (the constructor derives them from the bounds) -/
def momOf (lo hi : Rat) (M V : List Rat → Rat) (c0 : List Rat) (cs : List (List Rat)) : Option Mom :=
  if momentsFit lo hi (cmin M c0 cs) (cmax M c0 cs) (cmax V c0 cs)
  then some ⟨cmin M c0 cs, cmax M c0 cs, cmin V c0 cs, cmax V c0 cs⟩ else none

/-- what the executed model computes, in closed form: per level the min / max over the corners,
    then `Pbox.__init__`; the moment intervals are the hulls of the corner moments (if they fit) -/
theorem parametric_eq (pos kw : List PSpec) (t : Table) (b : List (Rat × Rat))
    (Qs : List (List Rat → Rat)) (M V : List Rat → Rat) (c0 : List Rat) (cs : List (List Rat))
    (hbox : boxOf pos kw = .ok b) (ht : TableOf t b Qs M V) (hc : corners b = c0 :: cs) :
    parametric true pos kw t = some
      (match (Qs.map fun Q => cmin Q c0 cs).head?, (Qs.map fun Q => cmax Q c0 cs).getLast? with
       | some lo, some hi =>
         (match pboxInit (Qs.map fun Q => cmin Q c0 cs) (Qs.map fun Q => cmax Q c0 cs) with
          | .error e => .error e
          | .ok (l, r) => .ok ⟨l, r, momOf lo hi M V c0 cs⟩)
       | _, _ => .error .Index) := by
  have hl := lookupAll_of t (fun c => ⟨rowOf Qs c, M c, V c⟩) (corners b) ht
  simp only [parametric, hbox, Bool.not_true, Bool.false_eq_true, if_false, hl, bounds, allSome_map, boundsFin]
  -- the three columns of the table are the rows, the means and the variances at the corners
  simp only [hc, List.map_map, Function.comp_def, colMin_rows, colMax_rows, minL_map_cons, maxL_map_cons,
    cmin, cmax, momOf]
  congr 1

theorem parametric_out {pos kw : List PSpec} {t : Table} {b : List (Rat × Rat)}
    {Qs : List (List Rat → Rat)} {M V : List Rat → Rat} {c0 : List Rat} {cs : List (List Rat)} {out : Out}
    (hbox : boxOf pos kw = .ok b) (ht : TableOf t b Qs M V) (hc : corners b = c0 :: cs)
    (hout : parametric true pos kw t = some (.ok out)) :
    pboxInit (Qs.map fun Q => cmin Q c0 cs) (Qs.map fun Q => cmax Q c0 cs) = .ok (out.left, out.right) ∧
    ∃ lo hi, (Qs.map fun Q => cmin Q c0 cs).head? = some lo ∧ (Qs.map fun Q => cmax Q c0 cs).getLast? = some hi ∧
      out.mom = momOf lo hi M V c0 cs := by
  rw [parametric_eq pos kw t b Qs M V c0 cs hbox ht hc, Option.some.injEq] at hout
  split at hout
  · next lo hi h1 h2 =>
    split at hout
    · cases hout
    · next l r hp =>
      cases hout
      exact ⟨hp, lo, hi, h1, h2, rfl⟩
  · cases hout

/-! ### minimum and maximum over the corners -/

theorem cmin_least (f : List Rat → Rat) (c0 : List Rat) (cs : List (List Rat)) :
    (∃ c ∈ c0 :: cs, cmin f c0 cs = f c) ∧ ∀ c ∈ c0 :: cs, cmin f c0 cs ≤ f c :=
  foldl_min_cons_least f c0 cs

theorem cmax_greatest (f : List Rat → Rat) (c0 : List Rat) (cs : List (List Rat)) :
    (∃ c ∈ c0 :: cs, cmax f c0 cs = f c) ∧ ∀ c ∈ c0 :: cs, f c ≤ cmax f c0 cs :=
  foldl_min_cons_least (α := Ratᵒᵈ) f c0 cs

/-- the core of C09: on the box, a coordinatewise monotone function stays between its minimum and
its maximum over the corners -/
theorem corner_hull {b : List (Rat × Rat)} {f : List Rat → Rat} {θ c0 : List Rat} {cs : List (List Rat)}
    (hc : corners b = c0 :: cs) (hf : CoordMono b f) (hθ : InBox b θ) :
    cmin f c0 cs ≤ f θ ∧ f θ ≤ cmax f c0 cs := by
  obtain ⟨⟨c, hcm, hle⟩, ⟨c', hcm', hle'⟩⟩ := corner_extremes b f θ hθ hf
  rw [hc] at hcm hcm'
  exact ⟨le_trans ((cmin_least f c0 cs).2 c hcm) hle, le_trans hle' ((cmax_greatest f c0 cs).2 c' hcm')⟩

theorem corner_hull_rows {b : List (Rat × Rat)} {Qs : List (List Rat → Rat)} {θ c0 : List Rat}
    {cs : List (List Rat)} (hc : corners b = c0 :: cs) (hQ : ∀ Q ∈ Qs, CoordMono b Q) (hθ : InBox b θ) :
    List.Forall₂ (· ≤ ·) (Qs.map fun Q => cmin Q c0 cs) (rowOf Qs θ) ∧
    List.Forall₂ (· ≤ ·) (rowOf Qs θ) (Qs.map fun Q => cmax Q c0 cs) :=
  ⟨forall2_map_map Qs _ _ fun Q hQm => (corner_hull hc (hQ Q hQm) hθ).1,
   forall2_map_map Qs _ _ fun Q hQm => (corner_hull hc (hQ Q hQm) hθ).2⟩

theorem momOf_some {lo hi : Rat} {M V : List Rat → Rat} {c0 : List Rat} {cs : List (List Rat)} {m : Mom}
    (h : momOf lo hi M V c0 cs = some m) : m = ⟨cmin M c0 cs, cmax M c0 cs, cmin V c0 cs, cmax V c0 cs⟩ := by
  unfold momOf at h
  split at h
  · exact (Option.some.inj h).symm
  · cases h

/-- ★ `envelope_encloses`: every member of the parameter box has its quantile, at every grid
    level, between the returned bounds — for any family whose quantile is monotone (either
    direction) in each parameter separately -/
theorem envelope_encloses (pos kw : List PSpec) (t : Table) (b : List (Rat × Rat))
    (Qs : List (List Rat → Rat)) (M V : List Rat → Rat) (θ : List Rat) (out : Out)
    (hbox : boxOf pos kw = .ok b) (ht : TableOf t b Qs M V)
    (hQ : ∀ Q ∈ Qs, CoordMono b Q) (hθ : InBox b θ)
    (hout : parametric true pos kw t = some (.ok out)) :
    List.Forall₂ (· ≤ ·) out.left (rowOf Qs θ) ∧ List.Forall₂ (· ≤ ·) (rowOf Qs θ) out.right := by
  obtain ⟨c0, cs, hc⟩ := List.exists_cons_of_ne_nil (corners_ne_nil b)
  obtain ⟨hp, _⟩ := parametric_out hbox ht hc hout
  obtain ⟨hL, hR⟩ := corner_hull_rows hc hQ hθ
  exact pboxInit_brackets hp hL hR

/-- ★ `moments_envelope`: whenever the family's mean and variance intervals are reported
    (`out.mom = some m`: they fit the discretised support) they contain the member's mean and
    variance, provided these are monotone in each parameter separately.  When they do not fit
    (`out.mom = none`) the constructor derives the moments from the bounds: NOT covered here. -/
theorem moments_envelope (pos kw : List PSpec) (t : Table) (b : List (Rat × Rat))
    (Qs : List (List Rat → Rat)) (M V : List Rat → Rat) (θ : List Rat) (out : Out) (m : Mom)
    (hbox : boxOf pos kw = .ok b) (ht : TableOf t b Qs M V)
    (hM : CoordMono b M) (hV : CoordMono b V) (hθ : InBox b θ)
    (hout : parametric true pos kw t = some (.ok out)) (hm : out.mom = some m) :
    (m.meanLo ≤ M θ ∧ M θ ≤ m.meanHi) ∧ (m.varLo ≤ V θ ∧ V θ ≤ m.varHi) := by
  obtain ⟨c0, cs, hc⟩ := List.exists_cons_of_ne_nil (corners_ne_nil b)
  obtain ⟨_, lo, hi, _, _, hmom⟩ := parametric_out hbox ht hc hout
  rw [momOf_some (hmom.symm.trans hm)]
  exact ⟨corner_hull hc hM hθ, corner_hull hc hV hθ⟩

theorem momentsFit_iff (lo hi mlo mhi vhi : Rat) :
    momentsFit lo hi mlo mhi vhi = true ↔ lo ≤ mlo ∧ mhi ≤ hi ∧ vhi ≤ (hi - lo) * (hi - lo) / 4 := by
  simp only [momentsFit, Bool.and_eq_true, decide_eq_true_eq, and_assoc]

/-- when are the family's moments reported: exactly when the corner hulls fit the support
    `[left-envelope at the first level, right-envelope at the last level]` -/
theorem moments_reported_iff (pos kw : List PSpec) (t : Table) (b : List (Rat × Rat))
    (Qs : List (List Rat → Rat)) (M V : List Rat → Rat) (c0 : List Rat) (cs : List (List Rat)) (out : Out)
    (hbox : boxOf pos kw = .ok b) (ht : TableOf t b Qs M V) (hc : corners b = c0 :: cs)
    (hout : parametric true pos kw t = some (.ok out)) :
    ∃ lo hi, (Qs.map fun Q => cmin Q c0 cs).head? = some lo ∧ (Qs.map fun Q => cmax Q c0 cs).getLast? = some hi ∧
      (out.mom.isSome = true ↔ (lo ≤ cmin M c0 cs ∧ cmax M c0 cs ≤ hi ∧ cmax V c0 cs ≤ (hi - lo) * (hi - lo) / 4)) := by
  obtain ⟨_, lo, hi, h1, h2, hmom⟩ := parametric_out hbox ht hc hout
  refine ⟨lo, hi, h1, h2, ?_⟩
  rw [hmom, ← momentsFit_iff, momOf]
  split <;> simp [*]

/-- ★ `point_params_degenerate`: with point-valued parameters the bounds coincide with the
    family's quantile function at that point, and the moment intervals (when reported) are the
    point's moments -/
theorem point_params_degenerate (pos kw : List PSpec) (t : Table) (b : List (Rat × Rat))
    (Qs : List (List Rat → Rat)) (M V : List Rat → Rat) (out : Out)
    (hbox : boxOf pos kw = .ok b) (ht : TableOf t b Qs M V)
    (hpt : ∀ p ∈ b, p.1 = p.2)
    (hout : parametric true pos kw t = some (.ok out)) :
    out.left = rowOf Qs (b.map Prod.fst) ∧ out.right = rowOf Qs (b.map Prod.fst) ∧
    ∀ m, out.mom = some m →
      m = ⟨M (b.map Prod.fst), M (b.map Prod.fst), V (b.map Prod.fst), V (b.map Prod.fst)⟩ := by
  obtain ⟨c0, cs, hc⟩ := List.exists_cons_of_ne_nil (corners_ne_nil b)
  obtain ⟨hp, lo, hi, _, _, hmom⟩ := parametric_out hbox ht hc hout
  -- every corner is the point, so minimum and maximum over the corners are the value there
  have hall : ∀ c ∈ c0 :: cs, c = b.map Prod.fst := hc ▸ corners_point b hpt
  have kmin : ∀ f : List Rat → Rat, cmin f c0 cs = f (b.map Prod.fst) := fun f => by
    obtain ⟨c, hcm, h⟩ := (cmin_least f c0 cs).1
    rw [h, hall c hcm]
  have kmax : ∀ f : List Rat → Rat, cmax f c0 cs = f (b.map Prod.fst) := fun f => by
    obtain ⟨c, hcm, h⟩ := (cmax_greatest f c0 cs).1
    rw [h, hall c hcm]
  simp only [kmin, kmax] at hp
  refine ⟨(pboxInit_same hp).1, (pboxInit_same hp).2, fun m hm => ?_⟩
  rw [momOf_some (hmom.symm.trans hm), kmin, kmax, kmin, kmax]

/-- ○ the bounds are attained: every returned value is the family's quantile at some corner
    (the envelope is the tightest one over the corners) -/
theorem envelope_attained (pos kw : List PSpec) (t : Table) (b : List (Rat × Rat))
    (Qs : List (List Rat → Rat)) (M V : List Rat → Rat) (out : Out)
    (hbox : boxOf pos kw = .ok b) (ht : TableOf t b Qs M V)
    (hout : parametric true pos kw t = some (.ok out)) :
    List.Forall₂ (fun v Q => ∃ c ∈ corners b, v = Q c) out.left Qs ∧
    List.Forall₂ (fun v Q => ∃ c ∈ corners b, v = Q c) out.right Qs := by
  obtain ⟨c0, cs, hc⟩ := List.exists_cons_of_ne_nil (corners_ne_nil b)
  obtain ⟨hp, _⟩ := parametric_out hbox ht hc hout
  have att : ∀ sel : (List Rat → Rat) → Rat, (∀ Q, ∃ c ∈ c0 :: cs, sel Q = Q c) →
      List.Forall₂ (fun v Q => ∃ c ∈ corners b, v = Q c) (Qs.map sel) Qs := by
    intro sel h
    rw [List.forall₂_map_left_iff, List.forall₂_same, hc]
    exact fun Q _ => h Q
  have amin := att _ fun Q => (cmin_least Q c0 cs).1
  have amax := att _ fun Q => (cmax_greatest Q c0 cs).1
  rcases pboxInit_cases hp with ⟨h1, h2⟩ | ⟨h1, h2, _⟩
  · rw [h1, h2]; exact ⟨amin, amax⟩
  · rw [h1, h2]; exact ⟨amax, amin⟩

/-- ○ a returned parametric p-box is well formed: equal lengths, increasing bounds, `left ≤ right` -/
theorem parametric_wf (pos kw : List PSpec) (t : Table) (b : List (Rat × Rat))
    (Qs : List (List Rat → Rat)) (M V : List Rat → Rat) (out : Out)
    (hbox : boxOf pos kw = .ok b) (ht : TableOf t b Qs M V)
    (hout : parametric true pos kw t = some (.ok out)) :
    out.left.length = out.right.length ∧ isIncreasing out.left = true ∧ isIncreasing out.right = true ∧
    List.Forall₂ (· ≤ ·) out.left out.right := by
  obtain ⟨c0, cs, hc⟩ := List.exists_cons_of_ne_nil (corners_ne_nil b)
  obtain ⟨hp, _⟩ := parametric_out hbox ht hc hout
  exact pboxInit_wf hp

/-! ## instances of the monotonicity hypothesis -/

/-- loc-scale quantile `μ + σ·z` (`z` = the standard quantile at one level, any sign); with fewer
    positional parameters scipy's defaults `loc = 0`, `scale = 1` apply -/
def lsQ (z : Rat) : List Rat → Rat
  | [] => z
  | [μ] => μ + z
  | [μ, σ] => μ + σ * z
  | _ => 0

/-- ★ `locscale_instance`: normal, Gumbel, logistic, Laplace, Rayleigh, exponential (loc, scale) -/
theorem locscale_instance (z : Rat) : ∀ b : List (Rat × Rat), b.length ≤ 2 → CoordMono b (lsQ z)
  | [], _ => trivial
  | [(l, h)], _ => by
    -- spelled out coordinate by coordinate, the hypothesis is a statement about numbers
    simp only [CoordMono, forall_inBox_nil, implies_true, and_true]
    exact Or.inl fun x y _ hxy _ => add_le_add_left hxy z
  | [(l1, h1), (l2, h2)], _ => by
    simp only [CoordMono, forall_inBox_cons, forall_inBox_nil, implies_true, and_true]
    refine ⟨Or.inl fun σ _ _ x y _ hxy _ => add_le_add_left hxy _, fun μ _ _ => ?_⟩
    -- in the scale the direction is the sign of the standard quantile
    rcases le_total 0 z with hz | hz
    · exact Or.inl fun x y _ hxy _ => add_le_add_right (mul_le_mul_of_nonneg_right hxy hz) μ
    · exact Or.inr fun x y _ hxy _ => add_le_add_right (mul_le_mul_of_nonpos_right hxy hz) μ
  | _ :: _ :: _ :: _, h => by simp at h

/-- composing with a monotone map keeps the hypothesis (`exp ∘ loc-scale`) -/
theorem coordMono_comp (f : Rat → Rat) (hf : ∀ x y, x ≤ y → f x ≤ f y) :
    ∀ (b : List (Rat × Rat)) (Q : List Rat → Rat), CoordMono b Q → CoordMono b (fun θ => f (Q θ))
  | [], _, _ => trivial
  | (lo, hi) :: b, Q, ⟨hdir, hrest⟩ => by
    refine ⟨?_, fun x h1 h2 => coordMono_comp f hf b (fun ys => Q (x :: ys)) (hrest x h1 h2)⟩
    rcases hdir with h | h
    · exact Or.inl (fun ys hys x y h1 h2 h3 => hf _ _ (h ys hys x y h1 h2 h3))
    · exact Or.inr (fun ys hys x y h1 h2 h3 => hf _ _ (h ys hys x y h1 h2 h3))

/-- the library's lognormal: `scipy.stats.lognorm(s = σ, scale = exp μ).ppf = exp μ · exp(σ z)`;
    `ex` stands for `exp` — assumed monotone and positive, nothing else -/
def lognQ (ex : Rat → Rat) (z : Rat) : List Rat → Rat
  | [μ, σ] => ex μ * ex (σ * z)
  | _ => 0

theorem lognormal_instance (ex : Rat → Rat) (hmono : ∀ x y, x ≤ y → ex x ≤ ex y) (hpos : ∀ x, 0 < ex x)
    (z : Rat) (l1 h1 l2 h2 : Rat) : CoordMono [(l1, h1), (l2, h2)] (lognQ ex z) := by
  simp only [CoordMono, forall_inBox_cons, forall_inBox_nil, implies_true, and_true]
  refine ⟨Or.inl fun σ _ _ x y _ hxy _ => mul_le_mul_of_nonneg_right (hmono x y hxy) (hpos _).le,
    fun μ _ _ => ?_⟩
  rcases le_total 0 z with hz | hz
  · exact Or.inl fun x y _ hxy _ =>
      mul_le_mul_of_nonneg_left (hmono _ _ (mul_le_mul_of_nonneg_right hxy hz)) (hpos μ).le
  · exact Or.inr fun x y _ hxy _ =>
      mul_le_mul_of_nonneg_left (hmono _ _ (mul_le_mul_of_nonpos_right hxy hz)) (hpos μ).le

/-- gamma `(a, loc, scale)`: `loc + scale · g a`, `g` = the standard gamma quantile at one level as
    a function of the shape -/
def gamQ (g : Rat → Rat) : List Rat → Rat
  | [a] => g a
  | [a, loc] => loc + g a
  | [a, loc, scale] => loc + scale * g a
  | _ => 0

/-- gamma instance.  ASSUMPTIONS about scipy's quantile (not proved here): `g` is monotone in the
    shape on the shape interval (stochastic ordering of gamma laws) and non-negative; the scale
    interval is non-negative -/
theorem gamma_instance (g : Rat → Rat) (a1 a2 l1 l2 s1 s2 : Rat)
    (hg : ∀ x y, a1 ≤ x → x ≤ y → y ≤ a2 → g x ≤ g y) (hg0 : ∀ x, a1 ≤ x → x ≤ a2 → 0 ≤ g x) (hs : 0 ≤ s1) :
    CoordMono [(a1, a2)] (gamQ g) ∧ CoordMono [(a1, a2), (l1, l2)] (gamQ g) ∧
    CoordMono [(a1, a2), (l1, l2), (s1, s2)] (gamQ g) := by
  simp only [CoordMono, forall_inBox_cons, forall_inBox_nil, implies_true, and_true]
  refine ⟨Or.inl hg, ⟨Or.inl fun loc _ _ x y h1 h2 h3 => add_le_add_right (hg x y h1 h2 h3) loc,
      fun a _ _ => Or.inl fun x y _ hxy _ => add_le_add_left hxy _⟩,
    Or.inl fun loc _ _ sc hsc _ x y h1 h2 h3 => ?_, fun a ha1 ha2 => ⟨?_, fun loc _ _ => ?_⟩⟩
  · exact add_le_add_right (mul_le_mul_of_nonneg_left (hg x y h1 h2 h3) (le_trans hs hsc)) loc
  · exact Or.inl fun sc _ _ x y _ hxy _ => add_le_add_left hxy _
  · exact Or.inl fun x y _ hxy _ => add_le_add_right (mul_le_mul_of_nonneg_right hxy (hg0 a ha1 ha2)) loc

/-- variance of a loc-scale family: `σ² · v` (`v ≥ 0` the standard variance) -/
def lsV (v : Rat) : List Rat → Rat
  | [] => v
  | [_] => v
  | [_, σ] => σ * σ * v
  | _ => 0

theorem locscale_var_instance (v : Rat) (hv : 0 ≤ v) (l1 h1 l2 h2 : Rat) (hs : 0 ≤ l2) :
    CoordMono [] (lsV v) ∧ CoordMono [(l1, h1)] (lsV v) ∧ CoordMono [(l1, h1), (l2, h2)] (lsV v) := by
  simp only [CoordMono, forall_inBox_cons, forall_inBox_nil, implies_true, and_true, true_and]
  refine ⟨Or.inl fun x y _ _ _ => le_rfl, Or.inl fun σ _ _ x y _ _ _ => le_rfl,
    fun μ _ _ => Or.inl fun x y hx hxy _ => mul_le_mul_of_nonneg_right ?_ hv⟩
  exact mul_le_mul hxy hxy (le_trans hs hx) (le_trans (le_trans hs hx) hxy)

/-- gamma variance `a · scale²` and mean `loc + scale · a` (= `gamQ id`) -/
def gamV : List Rat → Rat
  | [a] => a
  | [a, _] => a
  | [a, _, scale] => a * scale * scale
  | _ => 0

theorem gamma_var_instance (a1 a2 l1 l2 s1 s2 : Rat) (ha : 0 ≤ a1) (hs : 0 ≤ s1) :
    CoordMono [(a1, a2), (l1, l2), (s1, s2)] gamV := by
  simp only [CoordMono, forall_inBox_cons, forall_inBox_nil, implies_true, and_true]
  refine ⟨Or.inl fun loc _ _ sc hsc _ x y _ hxy _ => ?_,
    fun a ha1 _ => ⟨Or.inl fun sc _ _ x y _ _ _ => le_rfl, fun loc _ _ => Or.inl fun x y hx hxy _ => ?_⟩⟩
  · have hsc0 : 0 ≤ sc := le_trans hs hsc
    exact mul_le_mul_of_nonneg_right (mul_le_mul_of_nonneg_right hxy hsc0) hsc0
  · have hx0 : 0 ≤ x := le_trans hs hx
    have ha0 : 0 ≤ a := le_trans ha ha1
    exact mul_le_mul (mul_le_mul_of_nonneg_left hxy ha0) hxy hx0 (mul_nonneg ha0 (le_trans hx0 hxy))

theorem gamma_mean_instance (a1 a2 l1 l2 s1 s2 : Rat) (ha : 0 ≤ a1) (hs : 0 ≤ s1) :
    CoordMono [(a1, a2), (l1, l2), (s1, s2)] (gamQ id) :=
  (gamma_instance id a1 a2 l1 l2 s1 s2 (fun _ _ _ h _ => h) (fun _ h _ => le_trans ha h) hs).2.2

/-! ## parameter parsing (`wc_scalar_interval`) -/

theorem parse_num (x : Rat) : parseParam (.num x) = .ok ⟨x, x, true⟩ := rfl
theorem parse_single (x : Rat) : parseParam (.seq [x]) = .ok ⟨x, x, true⟩ := rfl
theorem parse_ivl (lo hi : Rat) : parseParam (.ivl lo hi) = .ok ⟨lo, hi, true⟩ := rfl

theorem parse_pair (a b : Rat) (h : a ≤ b) : parseParam (.seq [a, b]) = .ok ⟨a, b, true⟩ := by
  simp [parseParam, mkInterval, h]

/-- error branch: an inverted list / tuple raises `AssertionError` -/
theorem parse_pair_inverted (a b : Rat) (h : b < a) : parseParam (.seq [a, b]) = .error .Assertion := by
  simp [parseParam, mkInterval, not_le.mpr h]

/-- error branch: empty or more than three elements, or an unsupported type: `TypeError` -/
theorem parse_bad_arity (a b c d : Rat) (t : List Rat) :
    parseParam (.seq []) = .error .Type ∧ parseParam (.seq (a :: b :: c :: d :: t)) = .error .Type ∧
    parseParam .other = .error .Type := ⟨rfl, rfl, rfl⟩

theorem mkInterval_ok {a b : Rat} {i : PIv} (h : mkInterval a b = .ok i) : a ≤ b ∧ i = ⟨a, b, true⟩ := by
  unfold mkInterval at h
  split_ifs at h with hab
  exact ⟨hab, (Except.ok.inj h).symm⟩

/-- every accepted parameter that went through the `lo ≤ hi` check is an ordered interval
    (an `Interval` object handed in directly is ordered by its own constructor: `hI`) -/
theorem parse_checked_ordered (p : PSpec) (i : PIv) (h : parseParam p = .ok i) (hc : i.checked = true)
    (hI : ∀ lo hi, p = .ivl lo hi → lo ≤ hi) : i.lo ≤ i.hi := by
  cases p with
  | num x => cases h; exact le_rfl
  | ivl lo hi => cases h; exact hI lo hi rfl
  | other => cases h
  | seq xs =>
    match xs, h with
    | [], h => cases h
    | [x], h => cases h; exact le_rfl
    | [a, b], h =>
      obtain ⟨hab, rfl⟩ := mkInterval_ok h
      exact hab
    | [a, b, c], h =>
      -- a falsy third element skips the check, but then the interval is not `checked`
      simp only [parseParam] at h
      split_ifs at h
      · obtain ⟨hab, rfl⟩ := mkInterval_ok h
        exact hab
      · cases h
        cases hc
    | _ :: _ :: _ :: _ :: _, h => cases h

theorem parseParams_pairs : ∀ (b : List (Rat × Rat)), (∀ p ∈ b, p.1 ≤ p.2) →
    parseParams (b.map fun p => .seq [p.1, p.2]) = .ok (b.map fun p => ⟨p.1, p.2, true⟩)
  | [], _ => rfl
  | p :: t, hb => by
    simp only [List.map_cons, parseParams, parse_pair p.1 p.2 (hb p List.mem_cons_self),
      parseParams_pairs t fun q hq => hb q (List.mem_cons_of_mem _ hq)]

theorem toNumpy_checked : ∀ (b : List (Rat × Rat)), toNumpy (b.map fun p => (⟨p.1, p.2, true⟩ : PIv)) = .ok b
  | [] => rfl
  | p :: t => by simp only [List.map_cons, toNumpy, toNumpy_checked t, if_true]

theorem boxOf_pairs : ∀ (b : List (Rat × Rat)), (∀ p ∈ b, p.1 ≤ p.2) →
    boxOf (b.map fun p => .seq [p.1, p.2]) [] = .ok b := by
  intro b hb
  simp only [boxOf, parseParams_pairs b hb, parseParams, List.append_nil, toNumpy_checked b]

/-! ## bespoke `uniform` -/

/-- the library's grid level `i` of `n`: `np.linspace(0.001, 0.999, n)[i]` -/
def pLevel (n i : Nat) : Rat := 1 / 1000 + (i : Rat) * ((999 / 1000 - 1 / 1000) / ((n : Rat) - 1))

theorem linspace_getElem? (a b : Rat) (n i : Nat) (hi : i < n) :
    (linspace a b n)[i]? = some (a + (i : Rat) / ((n : Rat) - 1) * (b - a)) := by
  rw [linspace, List.getElem?_map, List.getElem?_range hi, Option.map_some, Option.some.injEq]
  ring

theorem pLevel_is_grid (n i : Nat) (hi : i < n) :
    (linspace (1 / 1000) (999 / 1000) n)[i]? = some (pLevel n i) := by
  rw [linspace_getElem? _ _ n i hi, Option.some.injEq, pLevel]
  ring

theorem linspace_length (a b : Rat) (n : Nat) : (linspace a b n).length = n := by
  rw [linspace, List.length_map, List.length_range]

theorem isIncreasing_adjacent : ∀ {l : List Rat}, isIncreasing l = true →
    ∀ {j : Nat} {x y : Rat}, l[j]? = some x → l[j + 1]? = some y → x ≤ y
  | [], _, _, _, _, hx, _ => by cases hx
  | [_], _, _, _, _, _, hy => by cases hy
  | a :: b :: t, h, 0, x, y, hx, hy => by
    rw [isIncreasing, Bool.and_eq_true, decide_eq_true_eq] at h
    cases hx
    cases hy
    exact h.1
  | a :: b :: t, h, j + 1, x, y, hx, hy => by
    rw [isIncreasing, Bool.and_eq_true] at h
    exact isIncreasing_adjacent h.2 hx hy

theorem linspace_increasing_imp (a b : Rat) (n : Nat) (hn : 2 ≤ n) (h : isIncreasing (linspace a b n) = true) :
    a ≤ b := by
  have hm : (0 : Rat) < (n : Rat) - 1 := sub_pos.mpr (Nat.one_lt_cast.mpr hn)
  -- the first two entries are `a` and `a + (b − a)/(n − 1)`
  have h01 := isIncreasing_adjacent h (linspace_getElem? a b n 0 (by omega)) (linspace_getElem? a b n 1 (by omega))
  rw [Nat.cast_zero, zero_div, zero_mul, add_zero, le_add_iff_nonneg_right, Nat.cast_one] at h01
  exact sub_nonneg.mp (nonneg_of_mul_nonneg_right h01 (one_div_pos.mpr hm))

theorem uniform_ok {n : Nat} {pa pb : PSpec} {a b : PIv} {out : Out}
    (ha : parseParam pa = .ok a) (hb : parseParam pb = .ok b) (hout : uniform n pa pb = .ok out) :
    pboxInit (linspace a.lo b.lo n) (linspace a.hi b.hi n) = .ok (out.left, out.right) ∧
    out.mom = some ⟨(a.lo + b.lo) / 2, (a.hi + b.hi) / 2,
      max (b.lo - a.hi) 0 * max (b.lo - a.hi) 0 / 12, (b.hi - a.lo) * (b.hi - a.lo) / 12⟩ := by
  simp only [uniform, ha, hb] at hout
  split_ifs at hout
  split at hout
  · cases hout
  · next l r hp =>
    cases hout
    exact ⟨hp, rfl⟩

theorem segment_le_segment {x x' y y' p : Rat} (hx : x ≤ x') (hy : y ≤ y') (hp0 : 0 ≤ p) (hp1 : p ≤ 1) :
    x + p * (y - x) ≤ x' + p * (y' - x') := by
  have h1 := mul_le_mul_of_nonneg_left hx (sub_nonneg.mpr hp1)
  have h2 := mul_le_mul_of_nonneg_left hy hp0
  linarith

theorem segment_mono {x y s t : Rat} (hxy : x ≤ y) (hst : s ≤ t) : x + s * (y - x) ≤ x + t * (y - x) :=
  add_le_add_right (mul_le_mul_of_nonneg_right hst (sub_nonneg.mpr hxy)) x

theorem level_within_step {δ t : Rat} (hδ : 1 / 1000 ≤ δ) (ht0 : 0 ≤ t) (ht1 : t ≤ 1) :
    0 ≤ 1 / 1000 + 998 / 1000 * t ∧ 1 / 1000 + 998 / 1000 * t ≤ 1 ∧
    t - δ ≤ 1 / 1000 + 998 / 1000 * t ∧ 1 / 1000 + 998 / 1000 * t ≤ t + δ := by
  refine ⟨?_, ?_, ?_, ?_⟩ <;> linarith

/-- the grid level `p_i` against the line parameters `j/(n−1)` of the previous and the next step;
`n ≤ 1001` makes a step at least `0.001` -/
theorem pLevel_bounds (n i : Nat) (hn2 : 2 ≤ n) (hn : n ≤ 1001) (hi : i < n) :
    0 ≤ pLevel n i ∧ pLevel n i ≤ 1 ∧
    ((i - 1 : Nat) : Rat) / ((n : Rat) - 1) ≤ pLevel n i ∧
    pLevel n i ≤ ((min (i + 1) (n - 1) : Nat) : Rat) / ((n : Rat) - 1) := by
  have hm : (0 : Rat) < (n : Rat) - 1 := sub_pos.mpr (Nat.one_lt_cast.mpr hn2)
  have hδ : (1 : Rat) / 1000 ≤ 1 / ((n : Rat) - 1) := by
    have : (n : Rat) ≤ 1001 := by exact_mod_cast hn
    exact one_div_le_one_div_of_le hm (by linarith)
  have ht0 : (0 : Rat) ≤ (i : Rat) / ((n : Rat) - 1) := div_nonneg (Nat.cast_nonneg i) hm.le
  have ht1 : (i : Rat) / ((n : Rat) - 1) ≤ 1 := by
    have : (i : Rat) + 1 ≤ n := by exact_mod_cast hi
    exact (div_le_one hm).mpr (by linarith)
  have hpl : pLevel n i = 1 / 1000 + 998 / 1000 * ((i : Rat) / ((n : Rat) - 1)) := by
    unfold pLevel
    ring
  obtain ⟨h0, h1, hlo, hhi⟩ := level_within_step hδ ht0 ht1
  rw [hpl]
  refine ⟨h0, h1, ?_, ?_⟩
  · rcases Nat.eq_zero_or_pos i with rfl | hpos
    · exact le_of_eq_of_le (by rw [Nat.zero_sub, Nat.cast_zero, zero_div]) h0
    · rw [Nat.cast_pred hpos, sub_div]
      exact hlo
  · rw [Nat.cast_min, ← min_div_div_right hm.le, Nat.cast_succ, add_div, Nat.cast_pred (by omega),
      div_self hm.ne']
    exact le_min hhi h1

set_option linter.unusedVariables false in  -- `hab` is not needed
/-- ★ `uniform_one_step`: for every member `U(a0,b0)` (`a0 ∈ a`, `b0 ∈ b`, `a0 ≤ b0`) the quantile at
    the grid level `p_i` lies between the left bound of the previous step and the right bound of
    the next step (the constructor draws its lines over `i/(n−1)`, not over `p_i`; the two differ
    by at most 0.001 < one step).  Beyond `n = 1001`, 0.001 exceeds a step. -/
theorem uniform_one_step (n : Nat) (hn2 : 2 ≤ n) (hn : n ≤ 1001) (pa pb : PSpec) (a b : PIv) (out : Out)
    (ha : parseParam pa = .ok a) (hb : parseParam pb = .ok b) (hout : uniform n pa pb = .ok out)
    (a0 b0 : Rat) (ha0 : a.lo ≤ a0 ∧ a0 ≤ a.hi) (hb0 : b.lo ≤ b0 ∧ b0 ≤ b.hi) (hab : a0 ≤ b0)
    (i : Nat) (hi : i < n) :
    out.left.length = n ∧ out.right.length = n ∧
    ∀ l r, out.left[i - 1]? = some l → out.right[min (i + 1) (n - 1)]? = some r →
      l ≤ a0 + pLevel n i * (b0 - a0) ∧ a0 + pLevel n i * (b0 - a0) ≤ r := by
  obtain ⟨hp, _⟩ := uniform_ok ha hb hout
  -- exchanged or not, the left bound is below the line of the lower endpoints and the right bound above
  -- the line of the upper endpoints, and both lines rise
  obtain ⟨hL, hR⟩ := pboxInit_le hp (by rw [linspace_length, linspace_length])
  obtain ⟨hincL, hincR⟩ := pboxInit_increasing hp
  have hlo := linspace_increasing_imp _ _ n hn2 hincL
  have hhi := linspace_increasing_imp _ _ n hn2 hincR
  obtain ⟨hp0, hp1, hτlo, hτhi⟩ := pLevel_bounds n i hn2 hn hi
  refine ⟨hL.length_eq.trans (linspace_length _ _ n), hR.length_eq.symm.trans (linspace_length _ _ n),
    fun l r hl hr => ?_⟩
  have h1 := forall2_getElem? hL hl (linspace_getElem? a.lo b.lo n (i - 1) (by omega))
  have h2 := forall2_getElem? hR (linspace_getElem? a.hi b.hi n (min (i + 1) (n - 1)) (by omega)) hr
  exact ⟨le_trans h1 (le_trans (segment_mono hlo hτlo) (segment_le_segment ha0.1 hb0.1 hp0 hp1)),
    le_trans (le_trans (segment_le_segment ha0.2 hb0.2 hp0 hp1) (segment_mono hhi hτhi)) h2⟩

/-- ★ the bespoke uniform's moment intervals contain every member's mean `(a0+b0)/2` and variance
    `(b0−a0)²/12` (after the `fix:`) -/
theorem uniform_moments (n : Nat) (pa pb : PSpec) (a b : PIv) (out : Out)
    (ha : parseParam pa = .ok a) (hb : parseParam pb = .ok b) (hout : uniform n pa pb = .ok out)
    (a0 b0 : Rat) (ha0 : a.lo ≤ a0 ∧ a0 ≤ a.hi) (hb0 : b.lo ≤ b0 ∧ b0 ≤ b.hi) (hab : a0 ≤ b0) :
    ∃ m, out.mom = some m ∧
    (m.meanLo ≤ (a0 + b0) / 2 ∧ (a0 + b0) / 2 ≤ m.meanHi) ∧
    (m.varLo ≤ (b0 - a0) * (b0 - a0) / 12 ∧ (b0 - a0) * (b0 - a0) / 12 ≤ m.varHi) := by
  obtain ⟨_, hm⟩ := uniform_ok ha hb hout
  refine ⟨_, hm, ?_⟩
  -- the width `b0 − a0` lies between the smallest and the largest width of the family
  have hw0 : 0 ≤ max (b.lo - a.hi) 0 := le_max_right _ _
  have hw1 : max (b.lo - a.hi) 0 ≤ b0 - a0 := max_le (sub_le_sub hb0.1 ha0.2) (sub_nonneg.mpr hab)
  have hw2 : b0 - a0 ≤ b.hi - a.lo := sub_le_sub hb0.2 ha0.1
  have hw3 : 0 ≤ b0 - a0 := sub_nonneg.mpr hab
  have twelve : (0 : Rat) ≤ 12 := by norm_num
  exact ⟨⟨div_le_div_of_nonneg_right (add_le_add ha0.1 hb0.1) zero_le_two,
      div_le_div_of_nonneg_right (add_le_add ha0.2 hb0.2) zero_le_two⟩,
    div_le_div_of_nonneg_right (mul_le_mul hw1 hw1 hw0 hw3) twelve,
    div_le_div_of_nonneg_right (mul_le_mul hw2 hw2 hw3 (le_trans hw3 hw2)) twelve⟩

/-- ★ point parameters: the bespoke uniform degenerates to a single line, `left = right` -/
theorem uniform_point_degenerate (n : Nat) (pa pb : PSpec) (a b : PIv) (out : Out)
    (ha : parseParam pa = .ok a) (hb : parseParam pb = .ok b) (hout : uniform n pa pb = .ok out)
    (hpa : a.lo = a.hi) (hpb : b.lo = b.hi) :
    out.left = linspace a.lo b.lo n ∧ out.right = linspace a.lo b.lo n ∧
    ∃ m, out.mom = some m ∧ m.meanLo = m.meanHi := by
  obtain ⟨hp, hm⟩ := uniform_ok ha hb hout
  rw [← hpa, ← hpb] at hp hm
  exact ⟨(pboxInit_same hp).1, (pboxInit_same hp).2, _, hm, rfl⟩

/-! ## `exponential_by_lambda` -/

/-- ★ the rate-parameterised exponential: rows `z/lo` and `z/hi` (`z ≥ 0` the standard exponential
    quantiles) bracket `z/λ` for every rate `λ ∈ [lo, hi]`, `lo > 0`; the moment intervals contain
    `1/λ` and `1/λ²` (after the `fix:`) -/
theorem ebl_encloses (p : PSpec) (i : PIv) (zs : List Rat) (out : Out) (lam : Rat)
    (hp : parseParam p = .ok i) (hlo : 0 < i.lo) (hz : ∀ z ∈ zs, 0 ≤ z)
    (hlam : i.lo ≤ lam ∧ lam ≤ i.hi)
    (hout : exponentialByLambda p (some (zs.map (· / i.lo))) (some (zs.map (· / i.hi))) = .ok out) :
    List.Forall₂ (· ≤ ·) out.left (zs.map (· / lam)) ∧ List.Forall₂ (· ≤ ·) (zs.map (· / lam)) out.right ∧
    ∃ m, out.mom = some m ∧ (m.meanLo ≤ 1 / lam ∧ 1 / lam ≤ m.meanHi) ∧
      (m.varLo ≤ 1 / (lam * lam) ∧ 1 / (lam * lam) ≤ m.varHi) := by
  have hl0 : 0 < lam := lt_of_lt_of_le hlo hlam.1
  have hhi : 0 < i.hi := lt_of_lt_of_le hl0 hlam.2
  have hB : List.Forall₂ (· ≤ ·) (zs.map (· / i.hi)) (zs.map (· / lam)) :=
    forall2_map_map zs _ _ (fun z hzm => div_le_div_of_nonneg_left (hz z hzm) hl0 hlam.2)
  have hA : List.Forall₂ (· ≤ ·) (zs.map (· / lam)) (zs.map (· / i.lo)) :=
    forall2_map_map zs _ _ (fun z hzm => div_le_div_of_nonneg_left (hz z hzm) hlo hlam.1)
  have hmom : (1 / i.hi ≤ 1 / lam ∧ 1 / lam ≤ 1 / i.lo) ∧
      (1 / (i.hi * i.hi) ≤ 1 / (lam * lam) ∧ 1 / (lam * lam) ≤ 1 / (i.lo * i.lo)) :=
    ⟨⟨one_div_le_one_div_of_le hl0 hlam.2, one_div_le_one_div_of_le hlo hlam.1⟩,
     one_div_le_one_div_of_le (mul_pos hl0 hl0) (mul_le_mul hlam.2 hlam.2 hl0.le hhi.le),
     one_div_le_one_div_of_le (mul_pos hlo hlo) (mul_le_mul hlam.1 hlam.1 hlo.le hl0.le)⟩
  simp only [exponentialByLambda, hp, hlo, hhi, and_self, if_true, staircaseO] at hout
  split_ifs at hout
  -- `Staircase(ra, rb)`, and if that fails `Staircase(rb, ra)`: either way the result brackets
  split at hout
  · next l r h1 =>
    cases hout
    exact ⟨(pboxInit_brackets_swapped h1 hB hA).1, (pboxInit_brackets_swapped h1 hB hA).2, _, rfl, hmom⟩
  · split at hout
    · next l r h2 =>
      cases hout
      exact ⟨(pboxInit_brackets h2 hB hA).1, (pboxInit_brackets h2 hB hA).2, _, rfl, hmom⟩
    · cases hout

/-! ## non-vacuity: the hypotheses of the theorems above are satisfiable, on the executed model -/

/-- the table the harness builds: one entry per corner -/
def canonicalTable (b : List (Rat × Rat)) (Qs : List (List Rat → Rat)) (M V : List Rat → Rat) : Table :=
  (corners b).map fun c => (c, some ⟨rowOf Qs c, M c, V c⟩)

theorem lookup_canonical (E : List Rat → Entry) : ∀ (cs : List (List Rat)) (c : List Rat), c ∈ cs →
    lookup (cs.map fun c => (c, some (E c))) c = some (some (E c))
  | c' :: cs, c, hc => by
    by_cases h : c' = c
    · subst h
      simp [lookup]
    · have ih := lookup_canonical E cs c ((List.mem_cons.mp hc).resolve_left (Ne.symm h))
      simpa [lookup, List.find?_cons, h] using ih

theorem tableOf_canonical (b : List (Rat × Rat)) (Qs : List (List Rat → Rat)) (M V : List Rat → Rat) :
    TableOf (canonicalTable b Qs M V) b Qs M V :=
  fun c hc => lookup_canonical (fun c => ⟨rowOf Qs c, M c, V c⟩) (corners b) c hc

/-- a normal-like family at three levels (standard quantiles −1, 0, 1), box μ ∈ [0,1], σ ∈ [1,2] -/
def exBox : List (Rat × Rat) := [(0, 1), (1, 2)]
def exQs : List (List Rat → Rat) := [lsQ (-1), lsQ 0, lsQ 1]
def exPos : List PSpec := [.seq [0, 1], .seq [1, 2]]

example : parametric true exPos [] (canonicalTable exBox exQs (lsQ 0) (lsV 1))
    = some (.ok ⟨[-2, 0, 1], [0, 1, 3], some ⟨0, 1, 1, 4⟩⟩) := by decide +kernel

example : boxOf exPos [] = .ok exBox := by decide +kernel
example : InBox exBox [1/2, 3/2] := by simp [InBox, exBox]; norm_num
theorem exQs_mono : ∀ Q ∈ exQs, CoordMono exBox Q := by
  intro Q hQ
  simp only [exQs, List.mem_cons, List.not_mem_nil, or_false] at hQ
  rcases hQ with rfl | rfl | rfl <;> exact locscale_instance _ exBox (Nat.le_refl 2)

example : ∀ Q ∈ exQs, CoordMono exBox Q := exQs_mono

/-- the whole chain on the concrete instance: member (μ,σ) = (1/2, 3/2) is enclosed at the three levels -/
example : List.Forall₂ (· ≤ ·) [-2, 0, 1] (rowOf exQs [1/2, 3/2]) ∧ List.Forall₂ (· ≤ ·) (rowOf exQs [1/2, 3/2]) [0, 1, 3] :=
  envelope_encloses exPos [] _ exBox exQs (lsQ 0) (lsV 1) [1/2, 3/2] ⟨[-2, 0, 1], [0, 1, 3], some ⟨0, 1, 1, 4⟩⟩
    (by decide +kernel) (tableOf_canonical _ _ _ _) exQs_mono (by simp [InBox, exBox]; norm_num) (by decide +kernel)

/-- point parameters on the executed model: left = right = the quantile row -/
example : parametric true [.num 3, .seq [2]] [] (canonicalTable [(3, 3), (2, 2)] exQs (lsQ 0) (lsV 1))
    = some (.ok ⟨[1, 3, 5], [1, 3, 5], some ⟨3, 3, 4, 4⟩⟩) := by decide +kernel

/-- bespoke uniform on the executed model (n = 5): lines over i/(n−1), exact moments -/
example : uniform 5 (.seq [0, 1]) (.seq [2, 3]) = .ok ⟨[0, 1/2, 1, 3/2, 2], [1, 3/2, 2, 5/2, 3], some ⟨1, 2, 1/12, 3/4⟩⟩ := by
  decide +kernel

/-- family moments that do not fit the discretised support are not handed over (`mom = none`) -/
example : parametric true exPos [] (canonicalTable exBox exQs (lsQ 0) (lsV 100))
    = some (.ok ⟨[-2, 0, 1], [0, 1, 3], none⟩) := by decide +kernel

/-- a corner where scipy answers NaN (e.g. scale 0): the constructor raises (generic Exception) -/
example : parametric true [.seq [0, 1]] [] [([0], none), ([1], some ⟨[1, 2], 1, 1⟩)] = some (.error .Other) := by
  decide +kernel

/-- crossing bounds are rejected by the constructor -/
example : pboxInit [0, 3] [1, 2] = .error .Other := by decide +kernel

/-- error branches of the executed model -/
example : uniform 5 (.seq [2, 3]) (.seq [0, 1]) = .error .Other := by decide +kernel
example : parametric true [.seq [2, 1]] [] [] = some (.error .Assertion) := by decide +kernel
example : parametric true [.seq [1, 2, 0]] [] [] = some (.error .Attribute) := by decide +kernel
example : parametric false [.seq [1, 2]] [] [] = some (.error .Type) := by decide +kernel

/-- `exponential_by_lambda` on the executed model: rates [1,2], standard quantiles 0, 1, 2 -/
example : exponentialByLambda (.seq [1, 2]) (some ([0, 1, 2].map (· / 1))) (some ([0, 1, 2].map (· / 2)))
    = .ok ⟨[0, 1/2, 1], [0, 1, 2], some ⟨1/2, 1, 1/4, 1⟩⟩ := by decide +kernel

/-- the gamma hypotheses are satisfiable (e.g. `g a = a`, shape in [1,2], scale in [1,3]) -/
example : CoordMono [(1, 2), (0, 1), (1, 3)] (gamQ id) :=
  gamma_mean_instance 1 2 0 1 1 3 (by norm_num) (by norm_num)

end Pun.Param
