import Pun.Model.DepCtx
/-!
# C16 — the ambient dependency setting is scoped, restored and isolated

All theorems are about the functions the driver executes (`stepCtx`, `run`,
`trace`, `stepW`, `traceW`, `method`, `operator` of `Pun.Model.DepCtx`).
Core Lean only.

* `balanced_restores`, `restored_observation`, `inside_is_code`, `inside_observation` — scoping and
  restoration for every well-nested history (any depth, any order of codes, any of the three ways of
  leaving a block);
* `operator_eq_method`, `operator_in_block` — the bare operator inside the block is the explicit method with the
  block's code, for every operator (incl. `D ** y`, `Distribution.__pow__`, since the repair 449c733);
* `thread_isolation` — for EVERY schedule (any list of thread-tagged events, not a bounded
  enumeration) each thread observes exactly what its own events, run alone, would show;
* `task_copy_semantics`, `task_created_anywhere`, `thread_starts_fresh` — a task starts from a copy (of
  the value the parent's own history gives at that moment, at any point of any schedule), a thread from
  the default, and afterwards neither side sees the other's writes; `thread_isolation_state` is the
  state form of isolation;
* `unknown_code_fails`, `unknown_code_fails_in_block`, `known_code_dispatches`;
* `foreign_close_leaves_closer` — a generator block closed from another context does not touch the closer;
* `explicit_call_ignores_ambient`, `explicit_call_outside` — an explicit method inside a block of any other code
  gives what it gives outside;
* `deferred_entry_restores`, `deferred_entry_observation`, `thread_isolation_deferred` — manager objects built
  before they are entered (pre-built managers, `__enter__`/`__exit__`, ExitStack, decorator form, built in one
  thread and entered in another): the value restored is the one in force at ENTER time;
* `nonlifo_example` — what is excluded by the grammar: suspended generators closed out of LIFO order leak.
-/

namespace Pun.DepCtx

/-- the three ways of leaving a block: normally, by exception, by closing the suspended generator -/
def Ev.isExit : Ev → Bool
  | .exit | .raise | .genClose => true
  | _ => false

def Ev.isAtom : Ev → Bool
  | .get | .arith _ | .call _ _ | .closeOther | .spawnThread _ | .spawnTask _ => true
  | _ => false

/-- well-nested histories `H ::= ε | atom | enter d · H · (exit|raise|genClose) | H · H`, any depth -/
inductive Balanced : List Ev → Prop where
  | nil : Balanced []
  | atom (e : Ev) (h : e.isAtom = true) : Balanced [e]
  | wrap (d : Code) (x : Ev) (hx : x.isExit = true) {es : List Ev} :
      Balanced es → Balanced (Ev.enter d :: (es ++ [x]))
  | append {a b : List Ev} : Balanced a → Balanced b → Balanced (a ++ b)

theorem run_append (c : Ctx) (a b : List Ev) :
    run c (a ++ b) = (run c a).bind (fun c' => run c' b) := by
  induction a generalizing c with
  | nil => rfl
  | cons e es ih =>
    simp only [List.cons_append, run]
    cases stepCtx c e with
    | none => rfl
    | some c' => exact ih c'

theorem stepCtx_atom (c : Ctx) {e : Ev} (h : e.isAtom = true) : stepCtx c e = some c := by
  cases e <;> first | rfl | cases h

theorem stepCtx_exit (c : Ctx) {x : Ev} (h : x.isExit = true) : stepCtx c x = leave c := by
  cases x <;> first | rfl | cases h

/-- the three ways of leaving a block have the same effect (the `finally` clause runs in all of them),
and it is the LIFO case of the general token reset -/
theorem exit_kinds_agree (c : Ctx) :
    stepCtx c .raise = stepCtx c .exit ∧ stepCtx c .genClose = stepCtx c .exit
      ∧ stepCtx c (.exitAt 0) = stepCtx c .exit := by
  refine ⟨rfl, rfl, ?_⟩
  obtain ⟨cur, toks⟩ := c
  cases toks <;> rfl

/-- ★ after any well-nested history the setting in force before it is in force again
(and the stack of open blocks is unchanged) -/
theorem balanced_restores {es : List Ev} (h : Balanced es) (c : Ctx) : run c es = some c := by
  induction h generalizing c with
  | nil => rfl
  | atom e he => simp only [run, stepCtx_atom c he, Option.bind_some]
  | wrap d x hx _ ih =>
    -- entering pushes the old value, the body restores the inner context, leaving pops the old value
    show run ⟨d, c.cur :: c.toks⟩ (_ ++ [x]) = some c
    rw [run_append, ih]
    simp only [Option.bind_some, run, stepCtx_exit _ hx, leave]
  | append _ _ iha ihb => rw [run_append, iha, Option.bind_some, ihb]

/-- ★ inside the block, at nesting depth 0 of that block, the setting is the block's code -/
theorem inside_is_code (d : Code) {es : List Ev} (h : Balanced es) (c : Ctx) :
    (run c (Ev.enter d :: es)).map get = some d := by
  show (run ⟨d, c.cur :: c.toks⟩ es).map get = some d
  rw [balanced_restores h]
  rfl

/-! ### the same facts as *observations* (what `get_current_dependency()` returns after each event) -/

theorem obsOf_code (c : Ctx) (e : Ev) : (obsOf c e).code = c.cur := by
  cases e <;> rfl

theorem trace_cons {c c1 : Ctx} {e : Ev} (hs : stepCtx c e = some c1) (es : List Ev) :
    trace c (e :: es) = (trace c1 es).map (fun r => obsOf c1 e :: r) := by
  simp only [trace, hs]

/-- `trace` and `run` are the same fold -/
theorem trace_snoc_of_run : ∀ {es : List Ev} {c c1 c2 : Ctx} {e : Ev}, run c es = some c1 →
    stepCtx c1 e = some c2 → ∃ tr, trace c (es ++ [e]) = some (tr ++ [obsOf c2 e])
  | [], _, _, _, _, h, hs => by
    cases h
    exact ⟨[], by rw [List.nil_append, trace_cons hs]; rfl⟩
  | e' :: es, c, _, _, _, h, hs => by
    obtain ⟨c', hs', h⟩ := Option.bind_eq_some_iff.mp h
    obtain ⟨tr, htr⟩ := trace_snoc_of_run h hs
    exact ⟨obsOf c' e' :: tr, by rw [List.cons_append, trace_cons hs', htr]; rfl⟩

/-- what is observed in a block `enter d · H · e` (H well nested, `e` any event the inner context can take):
the block can be run from every context, the first observation shows `d`, and the last one is made in the
context `e` leads to from the block's own — whatever happened in `H`.  The theorems about blocks below are
this with `e` a way of leaving, `get`, a bare operator, an explicit call. -/
theorem block_observation (d : Code) {es : List Ev} (h : Balanced es) (c : Ctx) {e : Ev} {c' : Ctx}
    (hs : stepCtx ⟨d, c.cur :: c.toks⟩ e = some c') :
    ∃ tr, trace c (Ev.enter d :: (es ++ [e])) = some tr
      ∧ tr.head?.map (·.code) = some d
      ∧ tr.getLast? = some (obsOf c' e) := by
  have henter : stepCtx c (.enter d) = some ⟨d, c.cur :: c.toks⟩ := rfl
  obtain ⟨ta, hta⟩ := trace_snoc_of_run (balanced_restores h _) hs
  refine ⟨obsOf ⟨d, c.cur :: c.toks⟩ (.enter d) :: (ta ++ [obsOf c' e]), ?_, rfl, ?_⟩
  · rw [trace_cons henter, hta]
    rfl
  · rw [← List.cons_append, List.getLast?_concat]

/-- ★ restoration as observed: a block `enter d · H · x` (H well nested, x any way of leaving) can be
run from every context; the first observation inside is `d`, and the observation made right after
leaving is the value in force before the block — any depth, any codes inside `H`. -/
theorem restored_observation (d : Code) (x : Ev) (hx : x.isExit = true) {es : List Ev}
    (h : Balanced es) (c : Ctx) :
    ∃ tr, trace c (Ev.enter d :: (es ++ [x])) = some tr
      ∧ tr.head?.map (·.code) = some d
      ∧ tr.getLast?.map (·.code) = some c.cur := by
  obtain ⟨tr, htr, hhead, hlast⟩ := block_observation d h c (stepCtx_exit _ hx)
  exact ⟨tr, htr, hhead, by rw [hlast, Option.map_some, obsOf_code]⟩

/-- ★ `get_current_dependency()` called inside the block after any well-nested prefix returns the block's code -/
theorem inside_observation (d : Code) {es : List Ev} (h : Balanced es) (c : Ctx) :
    ∃ tr, trace c (Ev.enter d :: (es ++ [.get])) = some tr ∧ tr.getLast?.map (·.code) = some d := by
  obtain ⟨tr, htr, _, hlast⟩ := block_observation d h c (e := .get) rfl
  exact ⟨tr, htr, by rw [hlast]; rfl⟩

/-! ### operators -/

/-- the statement: the bare operator is the explicit method applied to the value read at call time -/
def OperatorEqMethodStatement : Prop := ∀ (op : Op) (c : Ctx), operator op c = method op (get c)

/-- ★ it holds for every operator of `Pbox`, of the Dempster-Shafer mixin and of `Distribution`.
(On the pinned tree `Distribution.__pow__` passed the literal `"f"`: finding KF-C16-dist-pow, repaired by 449c733.) -/
theorem operator_eq_method (op : Op) (c : Ctx) : operator op c = method op (get c) := rfl

theorem operator_eq_method_statement : OperatorEqMethodStatement := operator_eq_method

/-- the statement: inside `with dependency(d)`, after any well-nested prefix, the bare operator gives exactly
what the explicit method called with `d` gives (value or error), and the observed setting is `d` -/
def OperatorInBlockStatement : Prop :=
  ∀ (op : Op) (d : Code) (es : List Ev), Balanced es → ∀ c : Ctx,
    ∃ tr o, trace c (Ev.enter d :: (es ++ [.arith op])) = some tr ∧ tr.getLast? = some o
      ∧ o.code = d ∧ o.res = some (method op d)

/-- ★ -/
theorem operator_in_block (op : Op) (d : Code) {es : List Ev} (h : Balanced es) (c : Ctx) :
    ∃ tr o, trace c (Ev.enter d :: (es ++ [.arith op])) = some tr ∧ tr.getLast? = some o
      ∧ o.code = d ∧ o.res = some (method op d) := by
  obtain ⟨tr, htr, _, hlast⟩ := block_observation d h c (e := .arith op) rfl
  exact ⟨tr, _, htr, hlast, rfl, rfl⟩

theorem operator_in_block_statement : OperatorInBlockStatement :=
  fun op d _ h c => operator_in_block op d h c

/-- ★ an unknown code makes every explicit method fail (all of them, `pow` behind `D ** y` included) -/
theorem unknown_code_fails (op : Op) (n : Nat) : ∃ e, method op (.unk n) = .error e := by
  cases op <;> exact ⟨_, rfl⟩

theorem known_code_dispatches (op : Op) (d : Code) (h : d.known = true) : ∃ call, method op d = .ok call := by
  cases d with
  | unk n => cases h
  | _ => cases op <;> exact ⟨_, rfl⟩

/-- the statement: every bare operator fails inside a block with an unknown code -/
def UnknownCodeFailsInBlockStatement : Prop :=
  ∀ (op : Op) (n : Nat) (es : List Ev), Balanced es → ∀ c : Ctx,
    ∃ tr o e, trace c (Ev.enter (.unk n) :: (es ++ [.arith op])) = some tr ∧ tr.getLast? = some o
      ∧ o.res = some (.error e)

/-- ★ … as observed inside a block with an unknown code, whatever happened in the block before
(on the pinned tree `D ** y` returned the Frechet power there instead of failing; repaired by 449c733) -/
theorem unknown_code_fails_in_block (op : Op) (n : Nat) {es : List Ev} (h : Balanced es) (c : Ctx) :
    ∃ tr o e, trace c (Ev.enter (.unk n) :: (es ++ [.arith op])) = some tr ∧ tr.getLast? = some o
      ∧ o.res = some (.error e) := by
  obtain ⟨tr, o, htr, hl, _, hres⟩ := operator_in_block op (.unk n) h c
  obtain ⟨e, he⟩ := unknown_code_fails op n
  exact ⟨tr, o, e, htr, hl, by rw [hres, he]⟩

theorem unknown_code_fails_in_block_statement : UnknownCodeFailsInBlockStatement :=
  fun op n _ h c => unknown_code_fails_in_block op n h c

/-- ★ an explicit method does not look at the ambient setting: called with `d` inside a block of ANY code `a`
(known or unknown), after any well-nested prefix, from any context, it gives `method op d` — the same as outside
any block — and the ambient setting it leaves behind is still `a`.  (In the model `method` has no context
argument; that the real methods and every helper they call behave so is what the tie and the oracle check,
with operands of every sign class.) -/
theorem explicit_call_ignores_ambient (op : Op) (d a : Code) {es : List Ev} (h : Balanced es) (c : Ctx) :
    ∃ tr o, trace c (Ev.enter a :: (es ++ [.call op d])) = some tr ∧ tr.getLast? = some o
      ∧ o.code = a ∧ o.res = some (method op d) := by
  obtain ⟨tr, htr, _, hlast⟩ := block_observation a h c (e := .call op d) rfl
  exact ⟨tr, _, htr, hlast, rfl, rfl⟩

theorem explicit_call_outside (op : Op) (d : Code) (c : Ctx) :
    (trace c [.call op d]).map (fun tr => tr.map (·.res)) = some [some (method op d)] := rfl

/-- ★ closing a generator whose block was entered by another thread / task / Context (`reset(token)` raises
ValueError in the closer) leaves the CLOSER's setting and open blocks exactly as they were: inside the closer's own
block of code `a`, after any well-nested prefix, the observation after the foreign close is still `a`.  (What the
starter is left with — its block is never restored, Python cannot reset another context — is outside the
statement; the model keeps the starter's block open and the tie checks that.) -/
theorem foreign_close_leaves_closer (a : Code) {es : List Ev} (h : Balanced es) (c : Ctx) :
    ∃ tr, trace c (Ev.enter a :: (es ++ [.closeOther, .get])) = some tr ∧ tr.getLast?.map (·.code) = some a := by
  have := inside_observation a (Balanced.append h (Balanced.atom .closeOther rfl)) c
  rwa [List.append_assoc] at this

theorem swapPO_involutive (d : Code) : swapPO (swapPO d) = d := by
  cases d <;> rfl

/-! ### several threads / tasks under every schedule -/

def proj (t : Nat) (es : List (Nat × Ev)) : List Ev :=
  (es.filter (fun p => p.1 == t)).map (·.2)

def projObs (t : Nat) (tr : List (Nat × Obs)) : List Obs :=
  (tr.filter (fun p => p.1 == t)).map (·.2)

/-- no event of the schedule (re)creates the context of `t` -/
def NoSpawnOnto (t : Nat) (es : List (Nat × Ev)) : Prop :=
  ∀ p ∈ es, p.2 ≠ Ev.spawnThread t ∧ p.2 ≠ Ev.spawnTask t

theorem proj_cons_self (t : Nat) (e : Ev) (es : List (Nat × Ev)) : proj t ((t, e) :: es) = e :: proj t es := by
  simp [proj]

theorem proj_cons_other {s t : Nat} (h : s ≠ t) (e : Ev) (es : List (Nat × Ev)) :
    proj t ((s, e) :: es) = proj t es := by
  simp [proj, h]

theorem projObs_cons_self (t : Nat) (o : Obs) (tr : List (Nat × Obs)) :
    projObs t ((t, o) :: tr) = o :: projObs t tr := by
  simp [projObs]

theorem projObs_cons_other {s t : Nat} (h : s ≠ t) (o : Obs) (tr : List (Nat × Obs)) :
    projObs t ((s, o) :: tr) = projObs t tr := by
  simp [projObs, h]

theorem NoSpawnOnto.cons {t s : Nat} {e : Ev} {es : List (Nat × Ev)} (h1 : e ≠ .spawnThread t)
    (h2 : e ≠ .spawnTask t) (h : NoSpawnOnto t es) : NoSpawnOnto t ((s, e) :: es) := by
  intro p hp
  rcases List.mem_cons.mp hp with rfl | hp
  · exact ⟨h1, h2⟩
  · exact h p hp

theorem upd_same (w : World) (t : Nat) (c : Ctx) : upd w t c t = c := if_pos rfl

theorem upd_other (w : World) {t t' : Nat} (c : Ctx) (h : t' ≠ t) : upd w t c t' = w t' := if_neg h

theorem ite_none_eq_some {α : Type} {p : Prop} [Decidable p] {x y : α}
    (h : (if p then none else some x) = some y) : ¬ p ∧ y = x := by
  by_cases hp : p
  · rw [if_pos hp] at h; cases h
  · rw [if_neg hp] at h; exact ⟨hp, (Option.some.inj h).symm⟩

theorem stepW_spawnThread {w w1 : World} {a ch : Nat} (h : stepW w a (.spawnThread ch) = some w1) :
    ch ≠ a ∧ w1 = upd w ch Ctx.init :=
  ite_none_eq_some h

theorem stepW_spawnTask {w w1 : World} {a ch : Nat} (h : stepW w a (.spawnTask ch) = some w1) :
    ch ≠ a ∧ w1 = upd w ch ⟨(w a).cur, []⟩ :=
  ite_none_eq_some h

theorem stepW_spec {w w1 : World} {s : Nat} {e : Ev} (h : stepW w s e = some w1) :
    stepCtx (w s) e = some (w1 s) ∧
      ∀ t, t ≠ s → e ≠ .spawnThread t → e ≠ .spawnTask t → w1 t = w t := by
  cases e with
  | spawnThread ch =>
    obtain ⟨hne, rfl⟩ := stepW_spawnThread h
    exact ⟨congrArg some (upd_other w _ (Ne.symm hne)).symm,
      fun t _ ht _ => upd_other w _ fun heq => ht (heq ▸ rfl)⟩
  | spawnTask ch =>
    obtain ⟨hne, rfl⟩ := stepW_spawnTask h
    exact ⟨congrArg some (upd_other w _ (Ne.symm hne)).symm,
      fun t _ _ ht => upd_other w _ fun heq => ht (heq ▸ rfl)⟩
  | _ =>
    simp only [stepW] at h
    obtain ⟨c', hc', rfl⟩ := Option.map_eq_some_iff.mp h
    exact ⟨hc'.trans (congrArg some (upd_same w s c').symm), fun t ht _ _ => upd_other w c' ht⟩

theorem traceW_cons_some {w : World} {s : Nat} {e : Ev} {es : List (Nat × Ev)} {tr : List (Nat × Obs)}
    (h : traceW w ((s, e) :: es) = some tr) :
    ∃ w1 tr1, stepW w s e = some w1 ∧ traceW w1 es = some tr1 ∧ tr = (s, obsOf (w1 s) e) :: tr1 := by
  simp only [traceW] at h
  split at h
  · cases h
  · next w1 hs =>
    obtain ⟨tr1, ht, rfl⟩ := Option.map_eq_some_iff.mp h
    exact ⟨w1, tr1, hs, ht, rfl⟩

/-- ★ isolation under EVERY interleaving: whatever the schedule (any list of thread-tagged events), the
observations of thread `t` are exactly those of its own events run alone from its own starting
context — nothing any other thread or task does is visible to it. -/
theorem thread_isolation (es : List (Nat × Ev)) (w : World) (tr : List (Nat × Obs))
    (h : traceW w es = some tr) (t : Nat) (hns : NoSpawnOnto t es) :
    trace (w t) (proj t es) = some (projObs t tr) := by
  induction es generalizing w tr with
  | nil => cases h; rfl
  | cons p es ih =>
    obtain ⟨s, e⟩ := p
    obtain ⟨w1, tr1, hs, ht, rfl⟩ := traceW_cons_some h
    have ih := ih w1 tr1 ht fun p hp => hns p (List.mem_cons_of_mem _ hp)
    obtain ⟨hself, hother⟩ := stepW_spec hs
    by_cases hst : s = t
    · subst hst
      rw [proj_cons_self, projObs_cons_self, trace_cons hself, ih, Option.map_some]
    · obtain ⟨h1, h2⟩ := hns (s, e) List.mem_cons_self
      rw [proj_cons_other hst, projObs_cons_other hst, ← hother t (Ne.symm hst) h1 h2]
      exact ih

/-- state form of isolation -/
theorem thread_isolation_state (es : List (Nat × Ev)) (w w' : World) (h : runW w es = some w') (t : Nat)
    (hns : NoSpawnOnto t es) : run (w t) (proj t es) = some (w' t) := by
  induction es generalizing w with
  | nil => cases h; rfl
  | cons p es ih =>
    obtain ⟨s, e⟩ := p
    obtain ⟨w1, hs, hr⟩ := Option.bind_eq_some_iff.mp h
    have ih := ih w1 hr fun p hp => hns p (List.mem_cons_of_mem _ hp)
    obtain ⟨hself, hother⟩ := stepW_spec hs
    by_cases hst : s = t
    · subst hst
      rw [proj_cons_self, run, hself, Option.bind_some, ih]
    · obtain ⟨h1, h2⟩ := hns (s, e) List.mem_cons_self
      rw [proj_cons_other hst, ← hother t (Ne.symm hst) h1 h2]
      exact ih

theorem child_isolation {a ch : Nat} {e : Ev} {c0 : Ctx} {es : List (Nat × Ev)} {w : World}
    {tr : List (Nat × Obs)} (hstep : stepW w a e = some (upd w ch c0)) (hne : a ≠ ch)
    (h : traceW w ((a, e) :: es) = some tr) (hch : NoSpawnOnto ch es) :
    trace c0 (proj ch es) = some (projObs ch tr) := by
  obtain ⟨w1, tr1, hs, ht, rfl⟩ := traceW_cons_some h
  obtain rfl := Option.some.inj (hstep.symm.trans hs)
  have := thread_isolation es _ tr1 ht ch hch
  rwa [upd_same, ← projObs_cons_other hne (obsOf (upd w ch c0 a) e)] at this

/-- ★ an asyncio task starts from a COPY of the creating context: for every schedule that follows, the
child observes its own events run from the parent's value at creation time (with no open block),
and the parent observes its own events run from its own context — the child's writes are invisible
to the parent and the parent's later writes are invisible to the child. -/
theorem task_copy_semantics (a ch : Nat) (es : List (Nat × Ev)) (w : World) (tr : List (Nat × Obs))
    (h : traceW w ((a, Ev.spawnTask ch) :: es) = some tr)
    (hch : NoSpawnOnto ch es) (ha : NoSpawnOnto a es) :
    a ≠ ch
    ∧ trace ⟨(w a).cur, []⟩ (proj ch es) = some (projObs ch tr)
    ∧ trace (w a) (proj a ((a, Ev.spawnTask ch) :: es)) = some (projObs a tr) := by
  obtain ⟨_, _, hs, _, _⟩ := traceW_cons_some h
  obtain ⟨hne, rfl⟩ := stepW_spawnTask hs
  exact ⟨Ne.symm hne, child_isolation hs (Ne.symm hne) h hch,
    thread_isolation _ w tr h a (ha.cons nofun fun heq => hne (Ev.spawnTask.inj heq))⟩

theorem traceW_append (w : World) (a b : List (Nat × Ev)) :
    traceW w (a ++ b) =
      (traceW w a).bind (fun ta => (runW w a).bind (fun w' => (traceW w' b).map (fun tb => ta ++ tb))) := by
  induction a generalizing w with
  | nil => simp [traceW, runW]
  | cons p es ih =>
    obtain ⟨s, e⟩ := p
    simp only [List.cons_append, traceW, runW]
    cases stepW w s e with
    | none => rfl
    | some w1 =>
      simp only [ih, Option.bind_some]
      cases traceW w1 es <;> cases runW w1 es <;> simp [Function.comp_def]

/-- ★ the general form: a task may be created at ANY point of ANY schedule (`pre` arbitrary, the parent
inside any number of blocks).  Whatever follows, the child observes its own events run from the value
the parent had at that moment; and that value is the one the parent's own history alone produces. -/
theorem task_created_anywhere (pre post : List (Nat × Ev)) (a ch : Nat) (w : World) (tr : List (Nat × Obs))
    (h : traceW w (pre ++ (a, Ev.spawnTask ch) :: post) = some tr)
    (hch : NoSpawnOnto ch post) (ha : NoSpawnOnto a pre) :
    ∃ ca tpre tpost, run (w a) (proj a pre) = some ca ∧ traceW w pre = some tpre ∧ tr = tpre ++ tpost
      ∧ trace ⟨ca.cur, []⟩ (proj ch post) = some (projObs ch tpost) := by
  rw [traceW_append] at h
  obtain ⟨tpre, hp, h⟩ := Option.bind_eq_some_iff.mp h
  obtain ⟨w1, hr, h⟩ := Option.bind_eq_some_iff.mp h
  obtain ⟨tpost, hq, rfl⟩ := Option.map_eq_some_iff.mp h
  obtain ⟨_, _, hs, _, _⟩ := traceW_cons_some hq
  obtain ⟨hne, rfl⟩ := stepW_spawnTask hs
  exact ⟨w1 a, tpre, tpost, thread_isolation_state pre w w1 hr a ha, hp, rfl,
    child_isolation hs (Ne.symm hne) hq hch⟩

/-- a new thread starts from the default, whatever is in force in the thread that starts it, and for
every schedule that follows the two do not see each other -/
theorem thread_starts_fresh (a ch : Nat) (es : List (Nat × Ev)) (w : World) (tr : List (Nat × Obs))
    (h : traceW w ((a, Ev.spawnThread ch) :: es) = some tr)
    (hch : NoSpawnOnto ch es) (ha : NoSpawnOnto a es) :
    a ≠ ch
    ∧ trace Ctx.init (proj ch es) = some (projObs ch tr)
    ∧ trace (w a) (proj a ((a, Ev.spawnThread ch) :: es)) = some (projObs a tr) := by
  obtain ⟨_, _, hs, _, _⟩ := traceW_cons_some h
  obtain ⟨hne, rfl⟩ := stepW_spawnThread hs
  exact ⟨Ne.symm hne, child_isolation hs (Ne.symm hne) h hch,
    thread_isolation _ w tr h a (ha.cons (fun heq => hne (Ev.spawnThread.inj heq)) nofun)⟩

/-! ### non-vacuity and the excluded case -/

/-- depth 4, mixed codes, all three ways of leaving, atoms in between -/
example : Balanced [.enter .p, .get, .enter (.unk 0), .enter .o, .arith .add, .enter .i, .genClose, .raise,
    .exit, .get, .exit] := by
  have h4 : Balanced [Ev.enter .i, .genClose] := Balanced.wrap .i .genClose rfl Balanced.nil
  have h3 : Balanced [Ev.enter .o, .arith .add, .enter .i, .genClose, .raise] :=
    Balanced.wrap .o .raise rfl (Balanced.append (Balanced.atom (.arith .add) rfl) h4)
  have h2 := Balanced.wrap (.unk 0) .exit rfl h3
  exact Balanced.wrap .p .exit rfl
    (Balanced.append (Balanced.atom .get rfl) (Balanced.append h2 (Balanced.atom .get rfl)))

example : run ⟨.i, [.o]⟩ [.enter .p, .enter (.unk 0), .raise, .enter .o, .genClose, .exit] = some ⟨.i, [.o]⟩ := by
  decide

/-- a schedule of two threads and a task satisfying the hypotheses of the isolation theorems -/
example : ∃ tr, traceW World.init [(0, .enter .p), (0, .spawnTask 1), (0, .spawnThread 2), (1, .get), (2, .get),
    (1, .enter .o), (0, .get), (2, .enter .i), (1, .arith .sub), (0, .exit), (1, .get), (1, .exit), (2, .raise)]
    = some tr ∧ (tr.map (fun p => p.2.code)) = [.p, .p, .p, .p, .f, .o, .p, .i, .o, .f, .o, .p, .f] := by
  refine ⟨_, rfl, ?_⟩
  decide

/-- the task is created while the parent is inside a block: the child keeps seeing `p` after the parent left -/
example : ∃ tr, traceW World.init ([(0, .enter .p)] ++ (0, .spawnTask 1) :: [(1, .get), (0, .exit), (1, .get), (0, .get)])
    = some tr ∧ (projObs 1 tr).map (·.code) = [.p, .p] ∧ (projObs 0 tr).map (·.code) = [.p, .p, .f, .f] :=
  ⟨_, rfl, by decide, by decide⟩

example : NoSpawnOnto 1 [(1, .get), (0, .enter .p), (1, .enter .o)] := by
  exact .cons nofun nofun (.cons nofun nofun (.cons nofun nofun fun _ h => nomatch h))

/-- NOT nesting (excluded by `Balanced`): two generators suspended inside their blocks in ONE context
and closed in the order they were opened.  Python's token semantics makes the setting leak (`p`
stays in force although every block has been left); the model reproduces it and the tie checks it
against the real interpreter, but it is not counted as a finding. -/
theorem nonlifo_example :
    run Ctx.init [.enter .p, .enter .o, .exitAt 1, .exitAt 0] = some ⟨.p, []⟩ := by
  decide

/-! ### manager objects built before they are entered (deferred entry) -/

def storeAfter (st : Store) : List EvM → Store
  | [] => st
  | .build m d :: es => storeAfter ((m, d) :: st) es
  | _ :: es => storeAfter st es

theorem resolveH_append (st : Store) (a b : List EvM) :
    resolveH st (a ++ b) =
      (resolveH st a).bind (fun ea => (resolveH (storeAfter st a) b).map (fun eb => ea ++ eb)) := by
  induction a generalizing st with
  | nil => simp [resolveH, storeAfter]
  | cons e es ih =>
    cases e with
    | base e =>
      simp only [List.cons_append, resolveH, storeAfter, ih]
      cases resolveH st es <;> simp [Function.comp_def]
    | build m d =>
      simp only [List.cons_append, resolveH, storeAfter, ih]
      cases resolveH ((m, d) :: st) es <;> simp [Function.comp_def]
    | enterM m =>
      simp only [List.cons_append, resolveH, storeAfter]
      cases st.lookup m with
      | none => rfl
      | some d =>
        simp only [ih]
        cases resolveH st es <;> simp [Function.comp_def]

theorem resolveH_snoc (st : Store) (es : List EvM) (x : Ev) :
    resolveH st (es ++ [.base x]) = (resolveH st es).map (· ++ [x]) := by
  rw [resolveH_append]
  cases resolveH st es <;> rfl

/-- well-nested histories in which a block may also be opened by entering a manager built earlier
(at any earlier point, under any ambient setting, possibly by another thread) -/
inductive BalancedM : List EvM → Prop where
  | nil : BalancedM []
  | atom (e : Ev) (h : e.isAtom = true) : BalancedM [.base e]
  | build (m : Nat) (d : Code) : BalancedM [.build m d]
  | wrap (d : Code) (x : Ev) (hx : x.isExit = true) {es : List EvM} :
      BalancedM es → BalancedM (.base (.enter d) :: (es ++ [.base x]))
  | wrapM (m : Nat) (x : Ev) (hx : x.isExit = true) {es : List EvM} :
      BalancedM es → BalancedM (.enterM m :: (es ++ [.base x]))
  | append {a b : List EvM} : BalancedM a → BalancedM b → BalancedM (a ++ b)

/-- a well-nested history with deferred entries resolves to a well-nested history: every theorem about
`Balanced` histories transfers -/
theorem balancedM_resolve {hm : List EvM} (h : BalancedM hm) :
    ∀ (st : Store) (es : List Ev), resolveH st hm = some es → Balanced es := by
  induction h with
  | nil => intro st es hr; cases hr; exact Balanced.nil
  | atom e he => intro st es hr; cases hr; exact Balanced.atom e he
  | build m d => intro st es hr; cases hr; exact Balanced.atom .get rfl
  | wrap d x hx _ ih =>
    intro st es hr
    simp only [resolveH, resolveH_snoc, Option.map_map] at hr
    obtain ⟨e0, h0, rfl⟩ := Option.map_eq_some_iff.mp hr
    exact Balanced.wrap d x hx (ih st e0 h0)
  | wrapM m x hx _ ih =>
    intro st es hr
    simp only [resolveH, resolveH_snoc] at hr
    split at hr
    · cases hr
    · next d _ =>
      rw [Option.map_map] at hr
      obtain ⟨e0, h0, rfl⟩ := Option.map_eq_some_iff.mp hr
      exact Balanced.wrap d x hx (ih st e0 h0)
  | append _ _ iha ihb =>
    intro st es hr
    rw [resolveH_append] at hr
    obtain ⟨ea, ha, hr⟩ := Option.bind_eq_some_iff.mp hr
    obtain ⟨eb, hb, rfl⟩ := Option.map_eq_some_iff.mp hr
    exact Balanced.append (iha st ea ha) (ihb _ eb hb)

/-- ★ restoration with deferred entry: whenever managers were built (any store `st` at the start, any builds in
between), after a well-nested history the setting in force before it is in force again -/
theorem deferred_entry_restores {hm : List EvM} (h : BalancedM hm) (st : Store) (es : List Ev)
    (hr : resolveH st hm = some es) (c : Ctx) : run c es = some c :=
  balanced_restores (balancedM_resolve h st es hr) c

/-- ★ the value restored is the one in force when the manager is ENTERED (not when it was built): for a manager
`m` built with code `d` at any earlier time, the block `enterM m · H · x` run from context `c` shows `d` inside
and `c.cur` — the value at entry — right after leaving. -/
theorem deferred_entry_observation (m : Nat) (d : Code) (x : Ev) (hx : x.isExit = true) {body : List EvM}
    (h : BalancedM body) (st : Store) (hl : st.lookup m = some d) (es : List Ev)
    (hr : resolveH st (.enterM m :: (body ++ [.base x])) = some es) (c : Ctx) :
    ∃ tr, trace c es = some tr ∧ tr.head?.map (·.code) = some d ∧ tr.getLast?.map (·.code) = some c.cur := by
  simp only [resolveH, hl, resolveH_snoc, Option.map_map] at hr
  obtain ⟨e0, h0, rfl⟩ := Option.map_eq_some_iff.mp hr
  exact restored_observation d x hx (balancedM_resolve h st e0 h0) c

/-- building a manager neither reads nor writes the context -/
theorem build_is_observation_only (st : Store) (m : Nat) (d : Code) (c : Ctx) :
    (resolveH st [.build m d]).bind (run c) = some c := rfl

theorem resolve_map (t : Nat) (st : Store) (hm : List EvM) :
    resolve st (hm.map (fun e => (t, e))) = (resolveH st hm).map (fun es => es.map (fun e => (t, e))) := by
  induction hm generalizing st with
  | nil => simp [resolve, resolveH]
  | cons e es ih =>
    cases e with
    | base e => simp only [List.map_cons, resolve, resolveH, ih]; cases resolveH st es <;> simp
    | build m d =>
      simp only [List.map_cons, resolve, resolveH, ih]; cases resolveH ((m, d) :: st) es <;> simp
    | enterM m =>
      simp only [List.map_cons, resolve, resolveH]
      cases st.lookup m with
      | none => simp
      | some d => simp only [ih]; cases resolveH st es <;> simp

/-- ★ isolation with deferred entry, every schedule: managers may be built by any thread and entered by any other;
each thread still observes exactly its own (resolved) events run alone -/
theorem thread_isolation_deferred (es : List (Nat × EvM)) (w : World) (tr : List (Nat × Obs))
    (h : traceWM w es = some tr) :
    ∃ es', resolve [] es = some es' ∧
      ∀ t, NoSpawnOnto t es' → trace (w t) (proj t es') = some (projObs t tr) := by
  obtain ⟨es', hr, h⟩ := Option.bind_eq_some_iff.mp h
  exact ⟨es', hr, fun t hns => thread_isolation es' w tr h t hns⟩

/-- the scenario of pre-built managers: both built under `f`, the inner one entered under `i`; leaving the inner
block gives `i` back (not the `f` in force when it was built) -/
example : ((resolveH [] [.build 0 .i, .build 1 .p, .enterM 0, .enterM 1, .base .get, .base .exit, .base .get,
      .base .raise, .base .get]).bind (trace Ctx.init)).map (fun tr => tr.map (fun o => o.code))
    = some [.f, .f, .i, .p, .p, .i, .i, .f, .f] := by
  decide

example : BalancedM [.build 0 .i, .build 1 .p, .enterM 0, .enterM 1, .base .get, .base .exit, .base .get,
    .base .raise, .base .get] := by
  have h1 : BalancedM [EvM.enterM 1, .base .get, .base .exit] :=
    BalancedM.wrapM 1 .exit rfl (BalancedM.atom .get rfl)
  have h0 := BalancedM.wrapM 0 .raise rfl (BalancedM.append h1 (BalancedM.atom .get rfl))
  have := BalancedM.append (BalancedM.build 0 .i) (BalancedM.append (BalancedM.build 1 .p)
    (BalancedM.append h0 (BalancedM.atom .get rfl)))
  simpa using this

/-- a manager built by thread 0 inside its `o` block and entered by thread 1 -/
example : (traceWM World.init [(0, .base (.enter .o)), (0, .build 7 .p), (0, .base (.spawnThread 1)), (1, .enterM 7),
      (0, .base .exit), (1, .base .exit), (1, .base .get), (0, .base .get)]).map (·.map (fun p => (p.1, p.2.code)))
    = some [(0, .o), (0, .o), (0, .o), (1, .p), (0, .f), (1, .f), (1, .f), (0, .f)] := by
  decide

end Pun.DepCtx
