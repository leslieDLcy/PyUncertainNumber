import Pun.Props.C18
import Pun.Gen.CutsGen
/-!
# C18 — the query logic regenerated from the source equals the hand model

`Pun/Gen/CutsGen.lean` is rewritten on every run by `harness/pv/translator/cuts.py` from `Staircase.alpha_cut`, `cdf`,
`discretise`, `outer_discretisation`, `condensation` and `get_PI` (pba/pbox_abc.py): which bound array feeds which endpoint
of the alpha-cut, of the cumulative-probability interval and of the native discretisation; for the outer discretisation, per
endpoint, the slice of the level array (`[0:-1]` / `[1:]`) and the end of the cut taken there; for `get_PI` the two level
expressions as rational functions of `alpha`, and per style (and for the fall-back inside `except`) which level and which end
of its cut feeds which endpoint.  The choices live in finite enums; the fixed interpreter below runs them.

`cutRawGen_eq`, `cdfRawGen_eq`, `discretiseGen_eq`, `outerGen_eq`, `getPIGen_eq` prove the interpreter on the CURRENT
constants equal to the hand model for ALL grids, p-boxes, levels and coverages; the `gen_*` theorems restate the unbounded
theorems of `Props/C18.lean` for what the source says now.  A source edit that swaps a bound, a slice, an end or a level, or
changes a level formula, changes a constant and breaks the corresponding `…_eq` proof.
-/
namespace Pun.Props.C18
open Pun Pun.Grid Pun.Dss Pun.Query Pun.Props Pun.Gen.Cuts

/-! ## fixed interpreter of the extracted choices -/

def sideGet (P : PB) : Side → List Rat
  | .left => P.left
  | .right => P.right

def endGet (c : Ivl) : End → Rat
  | .lo => c.1
  | .hi => c.2

def sliceAp (lv : List Rat) : Slice → List Rat
  | .dropLast => lv.dropLast
  | .tail => lv.tail
  | .all => lv

def lvlGet (alpha : Rat) : Lvl → Rat
  | .first => piFirst alpha
  | .second => piSecond alpha

def cutRawGen (g : List Rat) (P : PB) (a : Rat) : Except Err Ivl := do
  let k ← nearestE g a
  let l ← getE (sideGet P cutLo) k
  let r ← getE (sideGet P cutHi) k
  pure (l, r)

def cdfRawGen (g : List Rat) (P : PB) (x : Rat) : Except Err Ivl := do
  let lo ← getE g (stepOf (g.length - 1) (sideGet P cdfLo) x)
  let hi ← getE g (stepOf (g.length - 1) (sideGet P cdfHi) x)
  pure (lo, hi)

def discretiseGen (g : List Rat) (steps : Nat) (P : PB) (n : Option Nat) (lv : List Rat) : Except Err (List Ivl) :=
  if n = none ∨ n = some steps then
    if (sideGet P nativeLo).length = (sideGet P nativeHi).length ∧ allLE (sideGet P nativeLo) (sideGet P nativeHi)
    then .ok ((sideGet P nativeLo).zip (sideGet P nativeHi))
    else .error .Assertion
  else alphaCutArr g P lv

def outerGen (g : List Rat) (P : PB) (lv : List Rat) : Except Err (List Ivl) := do
  let ls ← alphaCutArr g P (sliceAp lv outerLo.s)
  let rs ← alphaCutArr g P (sliceAp lv outerHi.s)
  pure ((ls.map (fun c => endGet c outerLo.e)).zip (rs.map (fun c => endGet c outerHi.e)))

/-- `hi = self.alpha_cut(<level>).<end>; lo = self.alpha_cut(<level>).<end>` (the order written: `hi` first) -/
def piBranch (g : List Rat) (P : PB) (alpha : Rat) (lo hi : Pick) : Except Err Ivl := do
  let h ← alphaCut g P (lvlGet alpha hi.lvl)
  let l ← alphaCut g P (lvlGet alpha lo.lvl)
  pure (endGet l lo.e, endGet h hi.e)

def getPIGen (g : List Rat) (P : PB) (alpha : Rat) (narrow : Bool) : Except Err Ivl :=
  if narrow then do
    let p ← piBranch g P alpha narrowLo narrowHi
    if p.1 ≤ p.2 then pure p
    else do
      let q ← piBranch g P alpha fallbackLo fallbackHi
      mkIvl q.1 q.2
  else do
    let q ← piBranch g P alpha widestLo widestHi
    mkIvl q.1 q.2

/-! ## the interpreter on the current constants is the hand model -/

theorem cutRawGen_eq (g : List Rat) (P : PB) (a : Rat) : cutRawGen g P a = cutRaw g P a := rfl

theorem cdfRawGen_eq (g : List Rat) (P : PB) (x : Rat) : cdfRawGen g P x = cdfRaw g P x := rfl

theorem discretiseGen_eq (g : List Rat) (steps : Nat) (P : PB) (n : Option Nat) (lv : List Rat) :
    discretiseGen g steps P n lv = discretise g steps P n lv := rfl

theorem outerGen_eq (g : List Rat) (P : PB) (lv : List Rat) : outerGen g P lv = outerDiscretisation g P lv := rfl

theorem piLevels_eq (alpha : Rat) : (lvlGet alpha .first, lvlGet alpha .second) = piLevels alpha := rfl

theorem getPIGen_eq (g : List Rat) (P : PB) (alpha : Rat) (narrow : Bool) :
    getPIGen g P alpha narrow = getPI g P alpha narrow := by
  have e1 : lvlGet alpha .first = (piLevels alpha).1 := rfl
  have e2 : lvlGet alpha .second = (piLevels alpha).2 := rfl
  unfold getPIGen getPI piWidest piBranch
  simp only [narrowLo, narrowHi, widestLo, widestHi, fallbackLo, fallbackHi, e1, e2, endGet]
  -- both sides are determined by the two cuts; the generated fall-back only reads them a second time
  cases narrow <;> cases alphaCut g P (piLevels alpha).2 <;> cases alphaCut g P (piLevels alpha).1 <;>
    simp [bind, Except.bind, pure, Except.pure]

/-- the default style of `get_PI` is 'narrowest' (the branch with the fall-back) -/
theorem default_style_narrowest : defaultNarrow = true := rfl

/-! ## the theorems of `Props/C18.lean`, for what the source says now -/

/-- `alpha_cut` as generated: the check of `Interval(lo, hi)` on the generated pair -/
def alphaCutGen (g : List Rat) (P : PB) (a : Rat) : Except Err Ivl := do
  let c ← cutRawGen g P a
  mkIvl c.1 c.2

theorem alphaCutGen_eq (g : List Rat) (P : PB) (a : Rat) : alphaCutGen g P a = alphaCut g P a := rfl

theorem gen_alphacut_spec (g : List ℚ) (P : PB) (a l r : ℚ) (h : alphaCutGen g P a = .ok (l, r)) :
    ∃ k, findNearest g a = some k ∧ P.left[k]? = some l ∧ P.right[k]? = some r ∧ l ≤ r :=
  alphacut_spec g P a l r ((alphaCutGen_eq g P a).symm.trans h)

theorem gen_discretise_native (g : List ℚ) (steps : Nat) (P : PB) (lv : List ℚ) (n : Option Nat)
    (hn : n = none ∨ n = some steps) (hlen : P.left.length = P.right.length) (hle : allLE P.left P.right = true) :
    discretiseGen g steps P n lv = .ok (P.left.zip P.right) :=
  (discretiseGen_eq g steps P n lv).trans (discretise_native g steps P lv n hn hlen hle)

theorem gen_outer_contains_band (g : List ℚ) (P : PB) (hg : g.Pairwise (· ≤ ·))
    (hL : P.left.Pairwise (· ≤ ·)) (hR : P.right.Pairwise (· ≤ ·))
    (p0 p1 a : ℚ) (h0 : p0 ≤ a) (h1 : a ≤ p1) (c0 c1 c : Ivl)
    (e0 : cutRawGen g P p0 = .ok c0) (e1 : cutRawGen g P p1 = .ok c1) (e : cutRawGen g P a = .ok c) :
    c0.1 ≤ c.1 ∧ c.2 ≤ c1.2 :=
  outer_contains_band g P hg hL hR p0 p1 a h0 h1 c0 c1 c e0 e1 e

theorem gen_outer_pairs (g : List ℚ) (P : PB) (lv : List ℚ) (o : List Ivl) (h : outerGen g P lv = .ok o) :
    ∃ ls rs, alphaCutArr g P lv.dropLast = .ok ls ∧ alphaCutArr g P lv.tail = .ok rs ∧
      o = (ls.map (·.1)).zip (rs.map (·.2)) :=
  outer_pairs g P lv o ((outerGen_eq g P lv).symm.trans h)

theorem gen_pi_widest_contains_narrowest (g : List ℚ) (P : PB) (alpha : ℚ) (n w : Ivl)
    (hn : getPIGen g P alpha true = .ok n) (hw : getPIGen g P alpha false = .ok w) : w.1 ≤ n.1 ∧ n.2 ≤ w.2 :=
  pi_widest_contains_narrowest g P alpha n w ((getPIGen_eq g P alpha true).symm.trans hn)
    ((getPIGen_eq g P alpha false).symm.trans hw)

theorem gen_cdf_bracket (g : List ℚ) (P : PB) (x : ℚ) (c : Ivl) (h : cdfRawGen g P x = .ok c) :
    g[stepOf (g.length - 1) P.right x]? = some c.1 ∧ g[stepOf (g.length - 1) P.left x]? = some c.2 := by
  rw [cdfRawGen_eq] at h
  unfold cdfRaw at h
  obtain ⟨lo, hlo, h⟩ := bind_ok_inv h
  obtain ⟨hi, hhi, h⟩ := bind_ok_inv h
  cases h
  exact ⟨getE_ok hlo, getE_ok hhi⟩

/-- non-vacuity: the generated functions answer on a concrete 3-step box -/
example : alphaCutGen [1/4, 1/2, 3/4] ⟨[1, 2, 3], [2, 3, 5]⟩ (3/5) = .ok (2, 3) := by decide +kernel
example : outerGen [1/4, 1/2, 3/4] ⟨[1, 2, 3], [2, 3, 5]⟩ [1/4, 1/2, 3/4] = .ok [(1, 3), (2, 5)] := by decide +kernel
example : getPIGen [1/4, 1/2, 3/4] ⟨[1, 2, 3], [2, 3, 5]⟩ (1/2) true = .ok (2, 3) := by decide +kernel
example : getPIGen [1/4, 1/2, 3/4] ⟨[1, 2, 3], [2, 3, 5]⟩ (1/2) false = .ok (1, 5) := by decide +kernel

end Pun.Props.C18
