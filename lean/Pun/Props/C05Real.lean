import Pun.Props.C05
import Mathlib.Analysis.SpecialFunctions.Trigonometric.Basic
/-!
# C05 — `real_instance`: the hypotheses of the trigonometric soundness theorems hold for
Mathlib's `Real.sin`, `Real.cos`, `Real.tan` with the true periods `2π`, `π`

The soundness theorems of `Lemmas/Elem.lean` hold over an arbitrary linear ordered field `K`, for the
case analyses `sinShapeK …` (the model's, restated over `K`; equal to them at `K = ℚ`).
Instantiating `K = ℝ`, `s = Real.sin / Real.cos / Real.tan`, `T = 2π / π` gives enclosure theorems
for the real functions with no hypothesis left (`real_sin_encloses`, `real_cos_encloses`,
`real_tan_encloses`), which is the non-vacuity witness of the hypotheses of `sin_soundK`, `cos_soundK`,
`tan_soundK` (those of `sin_sound`, `cos_sound`, `tan_sound`, read over `ℝ`): they are exactly the facts
discharged here from Mathlib.  The ℚ theorems of `Props/C05.lean` are the same generic theorems at
`K = ℚ` (`cos_sound_from_generic` …).
-/
namespace Pun.Elem

/-- the ℚ theorem about the model is the generic theorem at `K = ℚ` -/
theorem cos_sound_from_generic (s : ℚ → ℚ) (T : ℚ) (hT : 0 < T)
    (per : ∀ (x : ℚ) (k : ℤ), s (x + k * T) = s x)
    (bd : ∀ x, -1 ≤ s x ∧ s x ≤ 1)
    (anti : ∀ u v, 0 ≤ u → u ≤ v → v ≤ T / 2 → s v ≤ s u)
    (mono : ∀ u v, T / 2 ≤ u → u ≤ v → v ≤ T → s u ≤ s v)
    (lo hi x yl yh yx : ℚ) (kl kh kx : ℤ)
    (hlo : lo = yl + kl * T) (hyl0 : 0 ≤ yl) (hylT : yl < T)
    (hhi : hi = yh + kh * T) (hyh0 : 0 ≤ yh) (hyhT : yh < T)
    (hx : x = yx + kx * T) (hyx0 : 0 ≤ yx) (hyxT : yx < T)
    (h1 : lo ≤ x) (h2 : x ≤ hi) (sh : Shape)
    (hsh : cosShape (hi - lo) yl yh T = some sh) :
    (bounds (s yl) (s yh) sh).1 ≤ s x ∧ s x ≤ (bounds (s yl) (s yh) sh).2 :=
  cos_sound s T hT per bd anti mono lo hi x yl yh yx kl kh kx hlo hyl0 hylT hhi hyh0 hyhT hx hyx0 hyxT h1 h2 sh hsh

theorem sin_sound_from_generic (s : ℚ → ℚ) (T : ℚ) (hT : 0 < T)
    (per : ∀ (x : ℚ) (k : ℤ), s (x + k * T) = s x)
    (bd : ∀ x, -1 ≤ s x ∧ s x ≤ 1)
    (m1 : ∀ u v, 0 ≤ u → u ≤ v → v ≤ T / 4 → s u ≤ s v)
    (a2 : ∀ u v, T / 4 ≤ u → u ≤ v → v ≤ 3 * (T / 4) → s v ≤ s u)
    (m3 : ∀ u v, 3 * (T / 4) ≤ u → u ≤ v → v ≤ T → s u ≤ s v)
    (lo hi x yl yh yx : ℚ) (kl kh kx : ℤ)
    (hlo : lo = yl + kl * T) (hyl0 : 0 ≤ yl) (hylT : yl < T)
    (hhi : hi = yh + kh * T) (hyh0 : 0 ≤ yh) (hyhT : yh < T)
    (hx : x = yx + kx * T) (hyx0 : 0 ≤ yx) (hyxT : yx < T)
    (h1 : lo ≤ x) (h2 : x ≤ hi) (sh : Shape)
    (hsh : sinShape (hi - lo) yl yh T = some sh) :
    (bounds (s yl) (s yh) sh).1 ≤ s x ∧ s x ≤ (bounds (s yl) (s yh) sh).2 :=
  sin_sound s T hT per bd m1 a2 m3 lo hi x yl yh yx kl kh kx hlo hyl0 hylT hhi hyh0 hyhT hx hyx0 hyxT h1 h2 sh hsh

open Real

theorem real_cos_hyp :
    (0 : ℝ) < 2 * π ∧
    (∀ (x : ℝ) (k : ℤ), cos (x + k * (2 * π)) = cos x) ∧
    (∀ x : ℝ, -1 ≤ cos x ∧ cos x ≤ 1) ∧
    (∀ u v : ℝ, 0 ≤ u → u ≤ v → v ≤ 2 * π / 2 → cos v ≤ cos u) ∧
    (∀ u v : ℝ, 2 * π / 2 ≤ u → u ≤ v → v ≤ 2 * π → cos u ≤ cos v) := by
  have h2 : 2 * π / 2 = π := mul_div_cancel_left₀ π two_ne_zero
  refine ⟨two_pi_pos, cos_add_int_mul_two_pi, fun x => ⟨neg_one_le_cos x, cos_le_one x⟩, ?_, ?_⟩
  · intro u v hu huv hv
    rw [h2] at hv
    exact cos_le_cos_of_nonneg_of_le_pi hu hv huv
  · -- reflected at `π`: `cos x = cos (2π - x)`, and `2π - x` is in `[0, π]`
    intro u v hu huv hv
    rw [h2] at hu
    rw [← cos_two_pi_sub u, ← cos_two_pi_sub v]
    exact cos_le_cos_of_nonneg_of_le_pi (sub_nonneg.mpr hv) (by linarith) (sub_le_sub_left huv _)

theorem real_sin_hyp :
    (∀ (x : ℝ) (k : ℤ), sin (x + k * (2 * π)) = sin x) ∧
    (∀ x : ℝ, -1 ≤ sin x ∧ sin x ≤ 1) ∧
    (∀ u v : ℝ, 0 ≤ u → u ≤ v → v ≤ 2 * π / 4 → sin u ≤ sin v) ∧
    (∀ u v : ℝ, 2 * π / 4 ≤ u → u ≤ v → v ≤ 3 * (2 * π / 4) → sin v ≤ sin u) ∧
    (∀ u v : ℝ, 3 * (2 * π / 4) ≤ u → u ≤ v → v ≤ 2 * π → sin u ≤ sin v) := by
  have hpi := pi_pos
  have h4 : 2 * π / 4 = π / 2 := by ring
  refine ⟨sin_add_int_mul_two_pi, fun x => ⟨neg_one_le_sin x, sin_le_one x⟩, ?_, ?_, ?_⟩
  · intro u v hu huv hv
    rw [h4] at hv
    exact sin_le_sin_of_le_of_le_pi_div_two (by linarith) hv huv
  · -- reflected at `π/2`: `sin x = sin (π - x)`, and `π - x` is in `[-π/2, π/2]`
    intro u v hu huv hv
    rw [h4] at hu hv
    rw [← sin_pi_sub u, ← sin_pi_sub v]
    exact sin_le_sin_of_le_of_le_pi_div_two (by linarith) (by linarith) (sub_le_sub_left huv π)
  · -- shifted by a period into `[-π/2, 0]`
    intro u v hu huv hv
    rw [h4] at hu
    rw [← sin_sub_two_pi u, ← sin_sub_two_pi v]
    exact sin_le_sin_of_le_of_le_pi_div_two (by linarith) (by linarith) (sub_le_sub_right huv _)

theorem real_tan_hyp :
    (0 : ℝ) < π ∧
    (∀ (x : ℝ) (k : ℤ), tan (x + k * π) = tan x) ∧
    (∀ u v : ℝ, 0 ≤ u → u ≤ v → v < π / 2 → tan u ≤ tan v) ∧
    (∀ u v : ℝ, π / 2 < u → u ≤ v → v ≤ π → tan u ≤ tan v) := by
  have hneg : -(π / 2) < 0 := neg_neg_of_pos pi_div_two_pos
  refine ⟨pi_pos, tan_add_int_mul_pi, ?_, ?_⟩
  · intro u v hu huv hv
    exact strictMonoOn_tan.monotoneOn ⟨hneg.trans_le hu, huv.trans_lt hv⟩ ⟨hneg.trans_le (hu.trans huv), hv⟩ huv
  · -- shifted by a period into `(-π/2, 0]`
    intro u v hu huv hv
    rw [← tan_sub_pi u, ← tan_sub_pi v]
    exact strictMonoOn_tan.monotoneOn ⟨by linarith, by linarith⟩ ⟨by linarith, by linarith⟩ (sub_le_sub_right huv π)

/-- the sine case analysis with the true period: for all real `lo ≤ x ≤ hi`, whatever shape it
selects from the width and the reduced endpoints encloses `Real.sin x` -/
theorem real_sin_encloses (lo hi x : ℝ) (h1 : lo ≤ x) (h2 : x ≤ hi) (sh : Shape)
    (hsh : sinShapeK (hi - lo) (fmodK lo (2 * π)) (fmodK hi (2 * π)) (2 * π) = some sh) :
    (boundsK (sin (fmodK lo (2 * π))) (sin (fmodK hi (2 * π))) sh).1 ≤ sin x ∧
    sin x ≤ (boundsK (sin (fmodK lo (2 * π))) (sin (fmodK hi (2 * π))) sh).2 := by
  obtain ⟨per, bd, m1, a2, m3⟩ := real_sin_hyp
  have hT : (0 : ℝ) < 2 * π := two_pi_pos
  exact sin_soundK sin (2 * π) hT per bd m1 a2 m3 (fmod_decompK lo _ hT) (fmod_decompK hi _ hT) (fmod_decompK x _ hT)
    h1 h2 hsh

theorem real_cos_encloses (lo hi x : ℝ) (h1 : lo ≤ x) (h2 : x ≤ hi) (sh : Shape)
    (hsh : cosShapeK (hi - lo) (fmodK lo (2 * π)) (fmodK hi (2 * π)) (2 * π) = some sh) :
    (boundsK (cos (fmodK lo (2 * π))) (cos (fmodK hi (2 * π))) sh).1 ≤ cos x ∧
    cos x ≤ (boundsK (cos (fmodK lo (2 * π))) (cos (fmodK hi (2 * π))) sh).2 := by
  obtain ⟨hT, per, bd, anti, mono⟩ := real_cos_hyp
  exact cos_soundK cos (2 * π) hT per bd anti mono (fmod_decompK lo _ hT) (fmod_decompK hi _ hT) (fmod_decompK x _ hT)
    h1 h2 hsh

/-- when the tangent case analysis (true period `π`) answers "bounded", no point of `[lo,hi]` is
a pole (`x ≡ π/2 mod π`) and `[tan zl, tan zh]` encloses `Real.tan x` -/
theorem real_tan_encloses (lo hi x : ℝ) (h1 : lo ≤ x) (h2 : x ≤ hi)
    (hfin : tanInfK (hi - lo) (fmodK lo π) (fmodK hi π) π = false) :
    fmodK x π ≠ π / 2 ∧ tan (fmodK lo π) ≤ tan x ∧ tan x ≤ tan (fmodK hi π) := by
  obtain ⟨hP, per, m1, m2⟩ := real_tan_hyp
  exact tan_soundK tan π hP per m1 m2 (fmod_decompK lo _ hP) (fmod_decompK hi _ hP) (fmod_decompK x _ hP) h1 h2 hfin

/-- the enclosure to expect on `[-1, 1]`, an interval that wraps through 0: `[sin (-1), sin 1]`.  Proved
from the monotonicity of `Real.sin` on `[-π/2, π/2]`; the case analysis is not evaluated here. -/
example : ∀ x : ℝ, -1 ≤ x → x ≤ 1 → sin (-1) ≤ sin x ∧ sin x ≤ sin 1 := by
  intro x h1 h2
  have hpi : (1 : ℝ) ≤ π / 2 := one_le_pi_div_two
  exact ⟨sin_le_sin_of_le_of_le_pi_div_two (neg_le_neg hpi) (h2.trans hpi) h1,
    sin_le_sin_of_le_of_le_pi_div_two ((neg_le_neg hpi).trans h1) hpi h2⟩

end Pun.Elem
