import Mathlib.Tactic.Linarith
import Mathlib.Tactic.NormNum
import Mathlib.Data.Rat.Floor
import Mathlib.Tactic.FieldSimp
import Mathlib.Tactic.Positivity
import Pun.Model.Query
import Pun.Props.C08
import Pun.Gen.GridGen
import Pun.Gen.LevelsGen
import Pun.Lemmas.Except
/-!
# C18 — p-box queries match the bounds

About `Pun.Query.*` / `Pun.Grid.findNearest`, the functions the driver executes; generic in the grid.

* `nearest_minimises` ★  `find_nearest` returns an index of minimal distance, the first such
* `nearest_monotone`  ★  on a sorted array the nearest index is monotone in the value
* `alphacut_spec`     ★  `alpha_cut(a)` = the two bounds at the grid level nearest to `a`
* `discretise_native` ★  `discretise(None | steps)` returns the steps themselves
* `outer_contains_band` ★ every alpha-cut of a band lies inside the band's outer interval
* `pi_widest_contains_narrowest` ★, `pi_widest_monotone` ★
* narrowest style with its documented fall-back, exactly where it is monotone:
  `pi_narrow_monotone_where_exists` ★ (exists at the smaller coverage ⇒ exists at the larger, and nested),
  `pi_narrow_monotone_both_fallback` ★ (exists at neither ⇒ both answers are the widest intervals, nested),
  `pi_fallback_breaks_monotone` (decided counterexample on the source grid for the remaining region; the
  harness replays it on the real code on every run)
* `cdf_bracket`       ○  `cdf(x)` picks the last step whose bound is `≤ x`: `b[k] ≤ x < b[k+1]`
* `condensation_contains` ★ for every grid with neighbour gap `δ > 2(0.001+ε)` and every level table within `ε`
  of `0.001 + 0.998·j/M`; `condensation_contains_source` ★ for the grid of the source and the regenerated tables
  `np.linspace(0.001, 0.999, m)`, every `m = 2..steps` (hypotheses decided by `decide +kernel`)
-/
namespace Pun.Props.C18
open Pun Pun.Grid Pun.Dss Pun.Query Pun.Props

theorem absR_eq (x : ℚ) : absR x = |x| := by
  unfold absR
  split
  · rw [abs_of_nonneg ‹_›]
  · rw [abs_of_neg (not_le.mp ‹_›)]

theorem nearestGo_none (v : ℚ) (arr : List ℚ) (h : nearestGo v arr = none) : arr = [] := by
  cases arr with
  | nil => rfl
  | cons a r =>
    simp only [nearestGo] at h
    split at h
    · simp at h
    · split at h <;> simp at h

theorem nearestGo_spec (v : ℚ) (arr : List ℚ) (k : Nat) (d : ℚ) (h : nearestGo v arr = some (k, d)) :
    (∃ a, arr[k]? = some a ∧ d = |a - v|) ∧
    (∀ (j : Nat) (x : ℚ), arr[j]? = some x → d ≤ |x - v|) ∧
    (∀ (j : Nat) (x : ℚ), j < k → arr[j]? = some x → d < |x - v|) := by
  induction arr generalizing k d with
  | nil => cases h
  | cons a r ih =>
    rw [nearestGo] at h
    split at h
    · next hr =>
      cases h
      cases nearestGo_none v r hr
      refine ⟨⟨a, rfl, absR_eq _⟩, fun j x hx => ?_, fun j x hj => absurd hj (Nat.not_lt_zero j)⟩
      cases j with
      | zero => cases hx; rw [absR_eq]
      | succ j => cases hx
    · next k' d' hr =>
      obtain ⟨hk', hmin, hfirst⟩ := ih k' d' hr
      split at h
      · next hc =>
        -- the head is at least as near as the nearest of the tail: it is the first minimiser
        cases h
        refine ⟨⟨a, rfl, absR_eq _⟩, fun j x hx => ?_, fun j x hj => absurd hj (Nat.not_lt_zero j)⟩
        cases j with
        | zero => cases hx; rw [absR_eq]
        | succ j => exact le_trans hc (hmin j x hx)
      · next hc =>
        cases h
        rw [absR_eq] at hc
        refine ⟨hk', fun j x hx => ?_, fun j x hj hx => ?_⟩
        · cases j with
          | zero => cases hx; exact le_of_lt (not_le.mp hc)
          | succ j => exact hmin j x hx
        · cases j with
          | zero => cases hx; exact not_le.mp hc
          | succ j => exact hfirst j x (Nat.lt_of_succ_lt_succ hj) hx

/-- ★ `find_nearest(arr, v) = k`: `arr[k]` is at minimal distance from `v`, and strictly closer than every
earlier entry (numpy `argmin` returns the first minimiser) -/
theorem nearest_minimises (arr : List ℚ) (v : ℚ) (k : Nat) (h : findNearest arr v = some k) :
    ∃ a, arr[k]? = some a ∧ (∀ (j : Nat) (x : ℚ), arr[j]? = some x → |a - v| ≤ |x - v|) ∧
      (∀ (j : Nat) (x : ℚ), j < k → arr[j]? = some x → |a - v| < |x - v|) := by
  obtain ⟨⟨k', d⟩, hg, rfl⟩ := Option.map_eq_some_iff.mp h
  obtain ⟨⟨a, ha, rfl⟩, hmin, hfirst⟩ := nearestGo_spec v arr k' d hg
  exact ⟨a, ha, hmin, hfirst⟩

theorem nearest_total (arr : List ℚ) (v : ℚ) (hne : arr ≠ []) : ∃ k, findNearest arr v = some k := by
  unfold findNearest
  cases hg : nearestGo v arr with
  | none => exact absurd (nearestGo_none v arr hg) hne
  | some kd => exact ⟨kd.1, rfl⟩

example : findNearest [1, 3, 5] 2 = some 0 := by decide +kernel   -- tie: the first minimiser

theorem nearer_mono {a a' v v' : ℚ} (ha : a' ≤ a) (hv : v ≤ v') (h : |a - v| < |a' - v|) : |a - v'| < |a' - v'| := by
  have hne : a' < a := lt_of_le_of_ne ha (by rintro rfl; exact lt_irrefl _ h)
  -- `v` lies beyond the midpoint of `a'` and `a`
  have hmid : a + a' < 2 * v := by
    rcases abs_cases (a' - v) with ⟨e, _⟩ | ⟨e, _⟩ <;> linarith [le_abs_self (a - v)]
  rw [abs_of_neg (by linarith : a' - v' < 0), abs_lt]
  constructor <;> linarith

/-- ★ on a non-decreasing array the nearest index is monotone in the value looked up -/
theorem nearest_monotone (arr : List ℚ) (hs : arr.Pairwise (· ≤ ·)) (v v' : ℚ) (hv : v ≤ v') (k k' : Nat)
    (h : findNearest arr v = some k) (h' : findNearest arr v' = some k') : k ≤ k' := by
  by_contra hc
  have hlt : k' < k := not_le.mp hc
  obtain ⟨a, ha, _, hfirst⟩ := nearest_minimises arr v k h
  obtain ⟨a', ha', hmin', _⟩ := nearest_minimises arr v' k' h'
  exact absurd (nearer_mono (pairwise_get hs hlt.le ha' ha) hv (hfirst k' a' hlt ha')) (not_lt.mpr (hmin' k a ha))

/-! ## the queries are built from `nearestE`, `getE`, `mkIvl` by `bind`: what a successful run says -/

theorem nearestE_ok {g : List ℚ} {v : ℚ} {k : Nat} (h : nearestE g v = .ok k) : findNearest g v = some k := by
  unfold nearestE at h
  split at h
  · next hk => cases h; exact hk
  · cases h

theorem getE_ok {l : List ℚ} {i : Nat} {x : ℚ} (h : getE l i = .ok x) : l[i]? = some x := by
  unfold getE at h
  split at h
  · next hx => cases h; exact hx
  · cases h

theorem mkIvl_ok {lo hi : ℚ} {c : Ivl} (h : mkIvl lo hi = .ok c) : lo ≤ hi ∧ c = (lo, hi) := by
  unfold mkIvl at h
  split at h
  · next hle => cases h; exact ⟨hle, rfl⟩
  · cases h

theorem cutRaw_spec (g : List ℚ) (P : PB) (x : ℚ) (cx : Ivl) (hx : cutRaw g P x = .ok cx) :
    ∃ k, findNearest g x = some k ∧ P.left[k]? = some cx.1 ∧ P.right[k]? = some cx.2 := by
  unfold cutRaw at hx
  obtain ⟨k, hk, hx⟩ := bind_ok_inv hx
  obtain ⟨l, hl, hx⟩ := bind_ok_inv hx
  obtain ⟨r, hr, hx⟩ := bind_ok_inv hx
  cases hx
  exact ⟨k, nearestE_ok hk, getE_ok hl, getE_ok hr⟩

theorem alphaCut_ok {g : List ℚ} {P : PB} {a : ℚ} {c : Ivl} (h : alphaCut g P a = .ok c) :
    cutRaw g P a = .ok c ∧ c.1 ≤ c.2 := by
  unfold alphaCut at h
  obtain ⟨c', hc, h⟩ := bind_ok_inv h
  obtain ⟨hle, rfl⟩ := mkIvl_ok h
  exact ⟨hc, hle⟩

/-- ★ `alpha_cut(a)` returns the left and right bound at the grid level nearest to `a` -/
theorem alphacut_spec (g : List ℚ) (P : PB) (a l r : ℚ) (h : alphaCut g P a = .ok (l, r)) :
    ∃ k, findNearest g a = some k ∧ P.left[k]? = some l ∧ P.right[k]? = some r ∧ l ≤ r := by
  obtain ⟨hc, hle⟩ := alphaCut_ok h
  obtain ⟨k, hk, hl, hr⟩ := cutRaw_spec g P a _ hc
  exact ⟨k, hk, hl, hr, hle⟩

theorem cutRaw_ok (g : List ℚ) (P : PB) (a : ℚ) (hne : g ≠ []) (hl : P.left.length = g.length)
    (hr : P.right.length = g.length) :
    ∃ k l r, findNearest g a = some k ∧ P.left[k]? = some l ∧ P.right[k]? = some r ∧ cutRaw g P a = .ok (l, r) := by
  obtain ⟨k, hk⟩ := nearest_total g a hne
  obtain ⟨x, hx, _⟩ := nearest_minimises g a k hk
  have hkl : k < g.length := (List.getElem?_eq_some_iff.mp hx).1
  have e1 : P.left[k]? = some (P.left[k]'(by omega)) := List.getElem?_eq_getElem _
  have e2 : P.right[k]? = some (P.right[k]'(by omega)) := List.getElem?_eq_getElem _
  refine ⟨k, _, _, hk, e1, e2, ?_⟩
  simp only [cutRaw, nearestE, getE, hk, e1, e2, bind, Except.bind, pure, Except.pure]

/-- ★ discretisation with the native step count returns the focal intervals (the steps) themselves -/
theorem discretise_native (g : List ℚ) (steps : Nat) (P : PB) (lv : List ℚ) (n : Option Nat)
    (hn : n = none ∨ n = some steps) (hlen : P.left.length = P.right.length) (hle : allLE P.left P.right = true) :
    discretise g steps P n lv = .ok (P.left.zip P.right) := by
  simp only [discretise, hn, if_true, hlen, hle, and_self]

theorem cutRaw_mono (g : List ℚ) (P : PB) (hg : g.Pairwise (· ≤ ·)) (hL : P.left.Pairwise (· ≤ ·))
    (hR : P.right.Pairwise (· ≤ ·)) {p p' : ℚ} (hp : p ≤ p') {c c' : Ivl} (e : cutRaw g P p = .ok c)
    (e' : cutRaw g P p' = .ok c') : c.1 ≤ c'.1 ∧ c.2 ≤ c'.2 := by
  obtain ⟨k, f, l, r⟩ := cutRaw_spec g P p c e
  obtain ⟨k', f', l', r'⟩ := cutRaw_spec g P p' c' e'
  have hk := nearest_monotone g hg p p' hp k k' f f'
  exact ⟨pairwise_get hL hk l l', pairwise_get hR hk r r'⟩

/-- ★ each outer interval contains every alpha-cut of its probability band: if the band is `[p₀, p₁]`, the
outer interval is `[left at p₀, right at p₁]` and `p₀ ≤ a ≤ p₁`, then `alpha_cut(a)` lies inside it.
(`outerDiscretisation` pairs exactly these: `cutRaw … p₀`.1 with `cutRaw … p₁`.2 for consecutive levels.) -/
theorem outer_contains_band (g : List ℚ) (P : PB) (hg : g.Pairwise (· ≤ ·))
    (hL : P.left.Pairwise (· ≤ ·)) (hR : P.right.Pairwise (· ≤ ·))
    (p0 p1 a : ℚ) (h0 : p0 ≤ a) (h1 : a ≤ p1) (c0 c1 c : Ivl)
    (e0 : cutRaw g P p0 = .ok c0) (e1 : cutRaw g P p1 = .ok c1) (e : cutRaw g P a = .ok c) :
    c0.1 ≤ c.1 ∧ c.2 ≤ c1.2 :=
  ⟨(cutRaw_mono g P hg hL hR h0 e0 e).1, (cutRaw_mono g P hg hL hR h1 e e1).2⟩

/-- the outer interval list is exactly that pairing -/
theorem outer_pairs (g : List ℚ) (P : PB) (lv : List ℚ) (o : List Ivl) (h : outerDiscretisation g P lv = .ok o) :
    ∃ ls rs, alphaCutArr g P lv.dropLast = .ok ls ∧ alphaCutArr g P lv.tail = .ok rs ∧
      o = (ls.map (·.1)).zip (rs.map (·.2)) := by
  unfold outerDiscretisation at h
  obtain ⟨ls, h1, h⟩ := bind_ok_inv h
  obtain ⟨rs, h2, h⟩ := bind_ok_inv h
  cases h
  exact ⟨ls, rs, h1, h2, rfl⟩

/-! ## prediction intervals -/

theorem piLevels_mono (a1 a2 : ℚ) (h : a1 ≤ a2) :
    (piLevels a2).1 ≤ (piLevels a1).1 ∧ (piLevels a1).2 ≤ (piLevels a2).2 := by
  unfold piLevels; constructor <;> simp only <;> linarith

theorem piWidest_spec (g : List ℚ) (P : PB) (a : ℚ) (w : Ivl) (hw : piWidest g P a = .ok w) :
    ∃ l h, alphaCut g P (piLevels a).1 = .ok l ∧ alphaCut g P (piLevels a).2 = .ok h ∧ w = (l.1, h.2) := by
  unfold piWidest at hw
  obtain ⟨h, hh, hw⟩ := bind_ok_inv hw
  obtain ⟨l, hl, hw⟩ := bind_ok_inv hw
  exact ⟨l, h, hl, hh, (mkIvl_ok hw).2⟩

/-- the narrowest prediction interval exists at coverage `a`: the right bound at the lower cut does not exceed
the left bound at the upper cut -/
def NarrowExists (g : List ℚ) (P : PB) (a : ℚ) : Prop :=
  ∃ l h, alphaCut g P (piLevels a).1 = .ok l ∧ alphaCut g P (piLevels a).2 = .ok h ∧ l.2 ≤ h.1

theorem getPI_narrow_spec (g : List ℚ) (P : PB) (a : ℚ) (n : Ivl) (hn : getPI g P a true = .ok n) :
    ∃ l h, alphaCut g P (piLevels a).1 = .ok l ∧ alphaCut g P (piLevels a).2 = .ok h ∧
      ((l.2 ≤ h.1 ∧ n = (l.2, h.1)) ∨ (¬ NarrowExists g P a ∧ getPI g P a false = .ok n)) := by
  simp only [getPI, if_true, Bool.false_eq_true, if_false] at hn ⊢
  obtain ⟨h, hh, hn⟩ := bind_ok_inv hn
  obtain ⟨l, hl, hn⟩ := bind_ok_inv hn
  refine ⟨l, h, hl, hh, ?_⟩
  split at hn
  · next hc => cases hn; exact Or.inl ⟨hc, rfl⟩
  · next hc =>
    refine Or.inr ⟨fun ⟨l', h', hl', hh', hx⟩ => hc ?_, hn⟩
    cases Except.ok.inj (hl.symm.trans hl')
    cases Except.ok.inj (hh.symm.trans hh')
    exact hx

/-- ★ whenever the narrowest prediction interval exists, the widest one (same coverage) contains it -/
theorem pi_widest_contains_narrowest (g : List ℚ) (P : PB) (alpha : ℚ) (n w : Ivl)
    (hn : getPI g P alpha true = .ok n) (hw : getPI g P alpha false = .ok w) : w.1 ≤ n.1 ∧ n.2 ≤ w.2 := by
  obtain ⟨l, h, el, eh, d⟩ := getPI_narrow_spec g P alpha n hn
  rcases d with ⟨_, rfl⟩ | ⟨_, hn'⟩
  · obtain ⟨l', h', el', eh', rfl⟩ := piWidest_spec g P alpha w hw
    cases Except.ok.inj (el.symm.trans el')
    cases Except.ok.inj (eh.symm.trans eh')
    exact ⟨(alphaCut_ok el).2, (alphaCut_ok eh).2⟩
  · cases Except.ok.inj (hw.symm.trans hn')
    exact ⟨le_refl _, le_refl _⟩

/-- ★ the widest prediction interval is monotone in the coverage level -/
theorem pi_widest_monotone (g : List ℚ) (P : PB) (hg : g.Pairwise (· ≤ ·))
    (hL : P.left.Pairwise (· ≤ ·)) (hR : P.right.Pairwise (· ≤ ·)) (a1 a2 : ℚ) (h : a1 ≤ a2) (w1 w2 : Ivl)
    (h1 : getPI g P a1 false = .ok w1) (h2 : getPI g P a2 false = .ok w2) : w2.1 ≤ w1.1 ∧ w1.2 ≤ w2.2 := by
  obtain ⟨l1, c1, e1, e2, rfl⟩ := piWidest_spec g P a1 w1 h1
  obtain ⟨l2, c2, e3, e4, rfl⟩ := piWidest_spec g P a2 w2 h2
  obtain ⟨m1, m2⟩ := piLevels_mono a1 a2 h
  exact ⟨(cutRaw_mono g P hg hL hR m1 (alphaCut_ok e3).1 (alphaCut_ok e1).1).1,
    (cutRaw_mono g P hg hL hR m2 (alphaCut_ok e2).1 (alphaCut_ok e4).1).2⟩

/-- "both are monotone", narrowest style: the narrowest interval is `[right bound at the lower cut, left bound at
the upper cut]`; the statement is about these two endpoints, i.e. about coverage levels where the narrowest
interval exists (where it does not, `get_PI` documents a fall-back to the widest interval, which is covered by
`pi_widest_monotone`; a fall-back value is not comparable with a narrowest value). -/
def PiNarrowMonotoneStatement : Prop :=
  ∀ (g : List ℚ) (P : PB), g.Pairwise (· ≤ ·) → P.left.Pairwise (· ≤ ·) → P.right.Pairwise (· ≤ ·) →
    ∀ (a1 a2 : ℚ), a1 ≤ a2 → ∀ (c1l c1h c2l c2h : Ivl),
      cutRaw g P (piLevels a1).1 = .ok c1l → cutRaw g P (piLevels a1).2 = .ok c1h →
      cutRaw g P (piLevels a2).1 = .ok c2l → cutRaw g P (piLevels a2).2 = .ok c2h →
      c2l.2 ≤ c1l.2 ∧ c1h.1 ≤ c2h.1

/-- ★ narrowest style: its two endpoints move outwards as the coverage grows -/
theorem pi_narrow_monotone : PiNarrowMonotoneStatement := by
  intro g P hg hL hR a1 a2 h c1l c1h c2l c2h e1l e1h e2l e2h
  obtain ⟨m1, m2⟩ := piLevels_mono a1 a2 h
  -- the lower cut level falls (its right bound with it), the upper cut level rises (its left bound with it)
  exact ⟨(cutRaw_mono g P hg hL hR m1 e2l e1l).2, (cutRaw_mono g P hg hL hR m2 e1h e2h).1⟩

/-! ### the narrowest style of `get_PI`, with its documented fall-back: exactly where it is monotone -/

/-- ★ region 1: if the narrowest interval exists at coverage `a1`, it exists at every larger coverage `a2`, and
`get_PI(a1) ⊆ get_PI(a2)` (narrowest style) -/
theorem pi_narrow_monotone_where_exists (g : List ℚ) (P : PB) (hg : g.Pairwise (· ≤ ·))
    (hL : P.left.Pairwise (· ≤ ·)) (hR : P.right.Pairwise (· ≤ ·)) (a1 a2 : ℚ) (h : a1 ≤ a2) (n1 n2 : Ivl)
    (h1 : getPI g P a1 true = .ok n1) (h2 : getPI g P a2 true = .ok n2) (hex : NarrowExists g P a1) :
    NarrowExists g P a2 ∧ n2.1 ≤ n1.1 ∧ n1.2 ≤ n2.2 := by
  obtain ⟨l1, c1, e1, e2, d1⟩ := getPI_narrow_spec g P a1 n1 h1
  obtain ⟨l2, c2, e3, e4, d2⟩ := getPI_narrow_spec g P a2 n2 h2
  rcases d1 with ⟨hx, rfl⟩ | ⟨hn, _⟩
  · obtain ⟨m1, m2⟩ := piLevels_mono a1 a2 h
    have q2 := (cutRaw_mono g P hg hL hR m1 (alphaCut_ok e3).1 (alphaCut_ok e1).1).2
    have q3 := (cutRaw_mono g P hg hL hR m2 (alphaCut_ok e2).1 (alphaCut_ok e4).1).1
    have hx2 : NarrowExists g P a2 := ⟨l2, c2, e3, e4, le_trans q2 (le_trans hx q3)⟩
    refine ⟨hx2, ?_⟩
    rcases d2 with ⟨_, rfl⟩ | ⟨hn2, _⟩
    · exact ⟨q2, q3⟩
    · exact absurd hx2 hn2
  · exact absurd hex hn

/-- ★ region 2: if the narrowest interval does not exist at the larger coverage `a2`, it does not exist at `a1`
either, both answers are the fall-back (widest) intervals, and `get_PI(a1) ⊆ get_PI(a2)` -/
theorem pi_narrow_monotone_both_fallback (g : List ℚ) (P : PB) (hg : g.Pairwise (· ≤ ·))
    (hL : P.left.Pairwise (· ≤ ·)) (hR : P.right.Pairwise (· ≤ ·)) (a1 a2 : ℚ) (h : a1 ≤ a2) (n1 n2 : Ivl)
    (h1 : getPI g P a1 true = .ok n1) (h2 : getPI g P a2 true = .ok n2) (hne : ¬ NarrowExists g P a2) :
    ¬ NarrowExists g P a1 ∧ n2.1 ≤ n1.1 ∧ n1.2 ≤ n2.2 := by
  have hne1 : ¬ NarrowExists g P a1 := fun hex =>
    hne (pi_narrow_monotone_where_exists g P hg hL hR a1 a2 h n1 n2 h1 h2 hex).1
  refine ⟨hne1, ?_⟩
  obtain ⟨l1, c1, e1, e2, d1⟩ := getPI_narrow_spec g P a1 n1 h1
  obtain ⟨l2, c2, e3, e4, d2⟩ := getPI_narrow_spec g P a2 n2 h2
  rcases d1 with ⟨hx, _⟩ | ⟨_, w1⟩
  · exact absurd ⟨l1, c1, e1, e2, hx⟩ hne1
  · rcases d2 with ⟨hx, _⟩ | ⟨_, w2⟩
    · exact absurd ⟨l2, c2, e3, e4, hx⟩ hne
    · exact pi_widest_monotone g P hg hL hR a1 a2 h n1 n2 w1 w2

def cexBox : PB := ⟨(List.range 200).map (fun i => (i : ℚ)), (List.range 200).map (fun i => (i : ℚ) + 100)⟩

def piPair (g : List ℚ) (P : PB) (a1 a2 : ℚ) : Option (Ivl × Ivl) :=
  match getPI g P a1 true, getPI g P a2 true with
  | .ok n1, .ok n2 => some (n1, n2)
  | _, _ => none

/-- ★ outside those two regions the documented fall-back breaks monotonicity — decided on the model for the grid of
the source (and replayed on the real code by the harness on every run): at coverage 1/8 the narrowest interval does
not exist and `get_PI` answers the widest `[87, 212]`; at coverage 63/64 it exists and is `[101, 198]`, which does
not contain the former. -/
theorem pi_fallback_breaks_monotone :
    piPair Gen.pValues cexBox (1 / 8) (63 / 64) = some ((87, 212), (101, 198)) := by decide +kernel

/-! ## cumulative probability at `x` (after the repair: last step whose bound is `≤ x`) -/

theorem countLE_spec (l : List ℚ) (x : ℚ) :
    (∀ (j : Nat) (b : ℚ), j < countLE l x → l[j]? = some b → b ≤ x) ∧
    (∀ (b : ℚ), l[countLE l x]? = some b → x < b) := by
  induction l with
  | nil => exact ⟨fun j b hj => absurd hj (Nat.not_lt_zero j), fun b hb => by cases hb⟩
  | cons a r ih =>
    rw [countLE]
    split
    · next h =>
      refine ⟨fun j b hj hb => ?_, fun b hb => ih.2 b hb⟩
      cases j with
      | zero => cases hb; exact h
      | succ j => exact ih.1 j b (Nat.lt_of_succ_lt_succ hj) hb
    · next h =>
      exact ⟨fun j b hj => absurd hj (Nat.not_lt_zero j), fun b hb => by cases hb; exact not_le.mp h⟩

/-- ○ `cdf(x)` and the alpha-cuts are inverse within one grid step: the step `k` picked for a bound array `b`
satisfies `b[k] ≤ x < b[k+1]` whenever `x` is inside the support of `b` (`b[0] ≤ x < b[last]`) -/
theorem cdf_bracket (b : List ℚ) (x : ℚ) (last : Nat) (hlast : last + 1 = b.length)
    (b0 bl : ℚ) (h0 : b[0]? = some b0) (hl : b[last]? = some bl) (hin0 : b0 ≤ x) (hin1 : x < bl) :
    ∃ lo hi, b[stepOf last b x]? = some lo ∧ b[stepOf last b x + 1]? = some hi ∧ lo ≤ x ∧ x < hi := by
  obtain ⟨s1, s2⟩ := countLE_spec b x
  have hpos : 0 < countLE b x := Nat.pos_of_ne_zero fun hz => not_lt.mpr hin0 (s2 b0 (hz ▸ h0))
  have hlt : countLE b x ≤ last := not_lt.mp fun hc => not_le.mpr hin1 (s1 last bl hc hl)
  obtain ⟨c, hc⟩ := Nat.exists_eq_succ_of_ne_zero (Nat.pos_iff_ne_zero.mp hpos)
  have hk : stepOf last b x = c := by unfold stepOf; omega
  have hlen : c + 1 < b.length := by omega
  rw [hc] at s1 s2
  rw [hk]
  have hc0 := List.getElem?_eq_getElem (Nat.lt_of_succ_lt hlen)
  have hc1 := List.getElem?_eq_getElem hlen
  exact ⟨_, _, hc0, hc1, s1 c _ (Nat.lt_succ_self c) hc0, s2 _ hc1⟩

/-! ## condensation contains the original p-box -/

theorem mapE_spec (f : ℚ → Except Err Ivl) (l : List ℚ) (cs : List Ivl) (h : mapE f l = .ok cs) :
    cs.length = l.length ∧ ∀ (j : Nat) (a : ℚ) (c : Ivl), l[j]? = some a → cs[j]? = some c → f a = .ok c := by
  induction l generalizing cs with
  | nil => simp only [mapE, Except.ok.injEq] at h; subst h; simp
  | cons x r ih =>
    simp only [mapE] at h
    cases hf : f x with
    | error e => simp [hf] at h
    | ok a =>
      cases hm : mapE f r with
      | error e => simp [hf, hm] at h
      | ok l' =>
        simp only [hf, hm, Except.ok.injEq] at h
        subst h
        obtain ⟨hlen, hspec⟩ := ih l' hm
        refine ⟨by simp [hlen], fun j b c hb hc => ?_⟩
        cases j with
        | zero => cases hb; cases hc; exact hf
        | succ j => exact hspec j b c hb hc

/-- `xs` lists, level by level of `lv`, the entry of the bound array `side` at the grid index nearest to the level -/
def CutOf (g side lv xs : List ℚ) : Prop :=
  xs.length = lv.length ∧ ∀ (j : Nat) (a x : ℚ), lv[j]? = some a → xs[j]? = some x →
    ∃ k, findNearest g a = some k ∧ side[k]? = some x

theorem CutOf.map {g side lv : List ℚ} {cs : List Ivl} {proj : Ivl → ℚ} (hlen : cs.length = lv.length)
    (h : ∀ (j : Nat) (a : ℚ) (c : Ivl), lv[j]? = some a → cs[j]? = some c →
      ∃ k, findNearest g a = some k ∧ side[k]? = some (proj c)) : CutOf g side lv (cs.map proj) := by
  refine ⟨by rw [List.length_map, hlen], fun j a x ha hx => ?_⟩
  rw [List.getElem?_map, Option.map_eq_some_iff] at hx
  obtain ⟨c, hc, rfl⟩ := hx
  exact h j a c ha hc

theorem alphaCutArr_cutOf (g : List ℚ) (P : PB) (lv : List ℚ) (cs : List Ivl) (h : alphaCutArr g P lv = .ok cs) :
    CutOf g P.left lv (cs.map (·.1)) ∧ CutOf g P.right lv (cs.map (·.2)) := by
  unfold alphaCutArr at h
  obtain ⟨cs', hm, h⟩ := bind_ok_inv h
  obtain ⟨hlen, hspec⟩ := mapE_spec _ _ _ hm
  split at h
  · cases h
    constructor
    · refine CutOf.map hlen fun j a c ha hc => ?_
      obtain ⟨k, fk, hl, _⟩ := cutRaw_spec g P a c (hspec j a c ha hc)
      exact ⟨k, fk, hl⟩
    · refine CutOf.map hlen fun j a c ha hc => ?_
      obtain ⟨k, fk, _, hr⟩ := cutRaw_spec g P a c (hspec j a c ha hc)
      exact ⟨k, fk, hr⟩
  · cases h

theorem outer_cutOf (g : List ℚ) (P : PB) (lv : List ℚ) (o : List Ivl) (h : outerDiscretisation g P lv = .ok o) :
    CutOf g P.left lv.dropLast (o.map (·.1)) ∧ CutOf g P.right lv.tail (o.map (·.2)) := by
  obtain ⟨ls, rs, h1, h2, rfl⟩ := outer_pairs g P lv o h
  obtain ⟨hl, _⟩ := alphaCutArr_cutOf g P _ ls h1
  obtain ⟨_, hr⟩ := alphaCutArr_cutOf g P _ rs h2
  have hlen : (ls.map (·.1)).length = (rs.map (·.2)).length := by
    rw [hl.1, hr.1, List.length_dropLast, List.length_tail]
  have e1 : ((ls.map (·.1)).zip (rs.map (·.2))).map (·.1) = ls.map (·.1) := List.map_fst_zip (le_of_eq hlen)
  have e2 : ((ls.map (·.1)).zip (rs.map (·.2))).map (·.2) = rs.map (·.2) := List.map_snd_zip (le_of_eq hlen.symm)
  rw [e1, e2]
  exact ⟨hl, hr⟩

theorem CutOf.get_le {g s s' lv lv' xs xs' : List ℚ} (hg : g.Pairwise (· ≤ ·))
    (hs : ∀ (i k : Nat) (a b : ℚ), i ≤ k → s[i]? = some a → s'[k]? = some b → a ≤ b)
    (h : CutOf g s lv xs) (h' : CutOf g s' lv' xs') {j j' : Nat} {p p' x x' : ℚ}
    (hp : lv[j]? = some p) (hp' : lv'[j']? = some p') (hpp : p ≤ p')
    (hx : xs[j]? = some x) (hx' : xs'[j']? = some x') : x ≤ x' := by
  obtain ⟨k, fk, hk⟩ := h.2 j p x hp hx
  obtain ⟨k', fk', hk'⟩ := h'.2 j' p' x' hp' hx'
  exact hs k k' x x' (nearest_monotone g hg p p' hpp k k' fk fk') hk hk'

theorem CutOf.sorted {g s lv xs : List ℚ} (hg : g.Pairwise (· ≤ ·)) (hs : s.Pairwise (· ≤ ·))
    (hlv : lv.Pairwise (· ≤ ·)) (h : CutOf g s lv xs) : xs.Pairwise (· ≤ ·) :=
  pairwise_of_get fun i j x y hij hx hy => by
    have hi : i < lv.length := h.1 ▸ (List.getElem?_eq_some_iff.mp hx).1
    have hj : j < lv.length := h.1 ▸ (List.getElem?_eq_some_iff.mp hy).1
    exact h.get_le hg (fun _ _ _ _ hik => pairwise_get hs hik) h (List.getElem?_eq_getElem hi)
      (List.getElem?_eq_getElem hj) (pairwise_get hlv hij.le (List.getElem?_eq_getElem hi) (List.getElem?_eq_getElem hj))
      hx hy

def GridGap (g : List ℚ) (δ : ℚ) : Prop :=
  ∀ (i : Nat) (a b : ℚ), g[i]? = some a → g[i + 1]? = some b → a + δ ≤ b

theorem gap_far {g : List ℚ} {δ : ℚ} (hδ : 0 ≤ δ) (hgap : GridGap g δ) {i j : Nat} {a b : ℚ} (hij : i < j)
    (ha : g[i]? = some a) (hb : g[j]? = some b) : a + δ ≤ b := by
  induction j generalizing b with
  | zero => omega
  | succ j ih =>
    have hj : j < g.length := by
      have := (List.getElem?_eq_some_iff.mp hb).1; omega
    have hstep := hgap j g[j] b (List.getElem?_eq_getElem hj) hb
    rcases Nat.lt_succ_iff_lt_or_eq.mp hij with h | rfl
    · have := ih h (List.getElem?_eq_getElem hj)
      linarith
    · rw [List.getElem?_eq_getElem hj, Option.some.injEq] at ha
      rw [← ha]; exact hstep

theorem nearer_of_gap {p q x δ η : ℚ} (hη0 : 0 ≤ η) (hη : 2 * η < δ) (h : p + δ ≤ q) (hx : x ≤ p + η) :
    |p - x| < |q - x| := by
  rw [abs_of_pos (by linarith : 0 < q - x), abs_lt]
  constructor <;> linarith

theorem nearest_le (g : List ℚ) (δ η : ℚ) (hδ : 0 ≤ δ) (hgap : GridGap g δ) (hη0 : 0 ≤ η) (hη : 2 * η < δ)
    (i k : Nat) (p x : ℚ) (hp : g[i]? = some p) (hk : findNearest g x = some k) (hx : x ≤ p + η) : k ≤ i := by
  by_contra hc
  have hik : i < k := not_le.mp hc
  obtain ⟨q, hq, _, hfirst⟩ := nearest_minimises g x k hk
  exact absurd (nearer_of_gap hη0 hη (gap_far hδ hgap hik hp hq) hx) (not_lt.mpr (le_of_lt (hfirst i p hik hp)))

theorem nearest_ge (g : List ℚ) (δ η : ℚ) (hδ : 0 ≤ δ) (hgap : GridGap g δ) (hη0 : 0 ≤ η) (hη : 2 * η < δ)
    (i k : Nat) (p x : ℚ) (hp : g[i]? = some p) (hk : findNearest g x = some k) (hx : p - η ≤ x) : i ≤ k := by
  by_contra hc
  have hki : k < i := not_le.mp hc
  obtain ⟨q, hq, hmin, _⟩ := nearest_minimises g x k hk
  have hfar := gap_far hδ hgap hki hq hp
  have h := nearer_of_gap hη0 hη (p := -p) (q := -q) (x := -x) (by linarith) (by linarith)
  rw [neg_sub_neg, neg_sub_neg, abs_sub_comm x p, abs_sub_comm x q] at h
  exact absurd h (not_lt.mpr (hmin i p hp))

theorem band_exists (p : ℚ) (M : Nat) (hM : 0 < M) (h0 : 0 < p) (h1 : p ≤ 1) :
    ∃ j, j < M ∧ (j : ℚ) / M < p ∧ p ≤ ((j : ℚ) + 1) / M := by
  have hMq : (0 : ℚ) < M := by exact_mod_cast hM
  have hpos : 0 < p * M := mul_pos h0 hMq
  obtain ⟨j, hj⟩ := Nat.exists_eq_succ_of_ne_zero (Nat.pos_iff_ne_zero.mp (Nat.ceil_pos.mpr hpos))
  have hle : p * M ≤ (⌈p * M⌉₊ : ℚ) := Nat.le_ceil _
  have hlt : (⌈p * M⌉₊ : ℚ) < p * M + 1 := Nat.ceil_lt_add_one (le_of_lt hpos)
  have hkM : ⌈p * M⌉₊ ≤ M := Nat.ceil_le.mpr (mul_le_of_le_one_left hMq.le h1)
  rw [hj] at hle hlt hkM
  push_cast at hle hlt
  refine ⟨j, by omega, ?_, ?_⟩
  · rw [div_lt_iff₀ hMq]; linarith
  · rw [le_div_iff₀ hMq]; linarith

/-- the level table is (within `ε`) `0.001 + 0.998·j/M`, `j = 0..M`, in non-decreasing order:
what `np.linspace(0.001, 0.999, M+1)` produces; checked on every table by the harness and, for the
tables `M+1 = 2..steps` of the source, decided in `levels_source_ok` -/
structure LevelsOK (lv : List ℚ) (M : Nat) (ε : ℚ) : Prop where
  len : lv.length = M + 1
  sorted : lv.Pairwise (· ≤ ·)
  close : ∀ (j : Nat) (x : ℚ), lv[j]? = some x → |x - (1 / 1000 + 998 / 1000 * j / M)| ≤ ε

theorem LevelsOK.le_of_band {lv : List ℚ} {M : Nat} {ε : ℚ} (h : LevelsOK lv M ε) {j : Nat} {x p : ℚ}
    (hx : lv[j]? = some x) (hp : (j : ℚ) / M < p) : x ≤ p + (1 / 1000 + ε) := by
  have c := (abs_le.mp (h.close j x hx)).2
  rw [mul_div_assoc] at c
  have : (0 : ℚ) ≤ (j : ℚ) / M := div_nonneg (Nat.cast_nonneg j) (Nat.cast_nonneg M)
  linarith only [c, hp, this]

theorem LevelsOK.ge_of_band {lv : List ℚ} {M : Nat} {ε : ℚ} (h : LevelsOK lv M ε) {j : Nat} {x p : ℚ}
    (hx : lv[j + 1]? = some x) (hp : p ≤ ((j : ℚ) + 1) / M) (hp1 : p ≤ 1) : p - (1 / 1000 + ε) ≤ x := by
  have c := (abs_le.mp (h.close (j + 1) x hx)).1
  rw [mul_div_assoc, Nat.cast_succ] at c
  linarith only [c, hp, hp1]

set_option linter.unusedVariables false in  -- `hgn` is not needed
/-- ★ condensation to `M` outer pieces (stacked with equal masses) contains the original p-box, for every grid
of levels in `(0,1]` whose neighbours are at least `δ > 2(0.001+ε)` apart and every level table within `ε` of
`0.001 + 0.998·j/M`. -/
theorem condensation_contains (g : List ℚ) (n M : Nat) (δ ε : ℚ) (P C : PB) (lv : List ℚ)
    (hg : C08.GridOK g) (hgn : g.length = n) (hgap : GridGap g δ) (hε : 0 ≤ ε) (hδ : 2 * (1 / 1000 + ε) < δ)
    (hM : 0 < M) (hlv : LevelsOK lv M ε) (hP : C08.WF n P) (hC : condensation g P lv = .ok C) :
    allLE C.left P.left = true ∧ allLE P.right C.right = true := by
  have hη0 : 0 ≤ 1 / 1000 + ε := by positivity
  have hδ0 : 0 ≤ δ := by linarith only [hη0, hδ]
  unfold condensation at hC
  obtain ⟨o, ho, hC⟩ := bind_ok_inv hC
  obtain ⟨hlo, hhi⟩ := outer_cutOf g P lv o ho
  have hlenlo : (o.map (·.1)).length = M := by rw [hlo.1, List.length_dropLast, hlv.len]; rfl
  have hlenhi : (o.map (·.2)).length = M := by rw [hhi.1, List.length_tail, hlv.len]; rfl
  -- the `j`-th outer interval is cut at the levels `lv.dropLast[j] = lv[j]` and `lv.tail[j] = lv[j+1]`
  have hdrop : ∀ j, j < M → lv.dropLast[j]? = lv[j]? := fun j hj => by
    rw [List.getElem?_dropLast, if_pos (by rw [hlv.len]; exact hj)]
  have lo_sorted := hlo.sorted hg.2 hP.lsorted (hlv.sorted.sublist (List.dropLast_sublist lv))
  have hi_sorted := hhi.sorted hg.2 hP.rsorted hlv.sorted.tail
  have lo_hi : allLE (o.map (·.1)) (o.map (·.2)) = true := (allLE_iff_get _ _).mpr fun j x y hx hy => by
    have hj : j < M := hlenlo ▸ (List.getElem?_eq_some_iff.mp hx).1
    have h1 : j + 1 < lv.length := by rw [hlv.len]; omega
    exact hlo.get_le hg.2 (fun _ _ _ _ => hP.left_le_right) hhi
      ((hdrop j hj).trans (List.getElem?_eq_getElem (by omega))) (List.getElem?_tail.trans (List.getElem?_eq_getElem h1))
      (pairwise_get hlv.sorted (Nat.le_succ j) (List.getElem?_eq_getElem (by omega)) (List.getElem?_eq_getElem h1)) hx hy
  obtain ⟨l, r, hst, hL, hR⟩ := C08.stacking_genInvOn g _ _ (equalW M) (hlenlo.trans hlenhi.symm)
    (C08.validW_equal _ M hlenlo hM) lo_hi hg
  rw [C08.stacking_none, hlenlo, hst] at hC
  cases hC
  -- at the grid level `p = g[i]`, in the band `(j/M, (j+1)/M]`, the condensed bounds are the `j`-th outer interval,
  -- cut at indices `k0 ≤ i ≤ k1`
  have point : ∀ (i : Nat) (p : ℚ), g[i]? = some p →
      (∀ a pl, IsGenInv (massLE ((o.map (·.1)).zip (equalW M))) p a → P.left[i]? = some pl → a ≤ pl) ∧
      (∀ b pr, IsGenInv (massLE ((o.map (·.2)).zip (equalW M))) p b → P.right[i]? = some pr → pr ≤ b) := by
    intro i p hp
    obtain ⟨hp0, hp1⟩ := hg.1 p (List.mem_of_getElem? hp)
    obtain ⟨j, hjM, b1, b2⟩ := band_exists p M hM hp0 hp1
    obtain ⟨x0, hj0⟩ : ∃ x, lv[j]? = some x := ⟨_, List.getElem?_eq_getElem (by rw [hlv.len]; omega)⟩
    obtain ⟨x1, hj1⟩ : ∃ x, lv[j + 1]? = some x := ⟨_, List.getElem?_eq_getElem (by rw [hlv.len]; omega)⟩
    obtain ⟨lo, hxl⟩ : ∃ x, (o.map (·.1))[j]? = some x := ⟨_, List.getElem?_eq_getElem (hlenlo ▸ hjM)⟩
    obtain ⟨hi, hxr⟩ : ∃ x, (o.map (·.2))[j]? = some x := ⟨_, List.getElem?_eq_getElem (hlenhi ▸ hjM)⟩
    obtain ⟨k0, f0, hk0⟩ := hlo.2 j _ _ ((hdrop j hjM).trans hj0) hxl
    obtain ⟨k1, f1, hk1⟩ := hhi.2 j _ _ (List.getElem?_tail.trans hj1) hxr
    refine ⟨fun a pl hga hpl => ?_, fun b pr hgb hpr => ?_⟩
    · rw [← hga.unique (C08.sorted_geninv _ M hlenlo lo_sorted j _ p hxl b1 b2)] at hk0
      exact pairwise_get hP.lsorted
        (nearest_le g δ _ hδ0 hgap hη0 hδ i k0 p _ hp f0 (hlv.le_of_band hj0 b1)) hk0 hpl
    · rw [← hgb.unique (C08.sorted_geninv _ M hlenhi hi_sorted j _ p hxr b1 b2)] at hk1
      exact pairwise_get hP.rsorted
        (nearest_ge g δ _ hδ0 hgap hη0 hδ i k1 p _ hp f1 (hlv.ge_of_band hj1 b2 hp1)) hpr hk1
  constructor
  · refine (allLE_iff_get _ _).mpr fun i a pl ha hpl => ?_
    obtain ⟨p, hp, hga⟩ := hL.get ha
    exact (point i p hp).1 a pl hga hpl
  · refine (allLE_iff_get _ _).mpr fun i pr b hpr hb => ?_
    obtain ⟨p, hp, hgb⟩ := hR.get hb
    exact (point i p hp).2 b pr hgb hpr

/-! ### the grid and the level tables of the source satisfy the hypotheses (regenerated, decided on every build) -/

def gapB (δ : ℚ) : List ℚ → Bool
  | a :: b :: r => decide (a + δ ≤ b) && gapB δ (b :: r)
  | _ => true

theorem gapB_spec (δ : ℚ) (g : List ℚ) (h : gapB δ g = true) : GridGap g δ := by
  induction g with
  | nil => intro i a b ha; cases ha
  | cons x r ih =>
    cases r with
    | nil => intro i a b ha hb; cases hb
    | cons y r' =>
      simp only [gapB, Bool.and_eq_true, decide_eq_true_eq] at h
      intro i a b ha hb
      cases i with
      | zero => cases ha; cases hb; exact h.1
      | succ i => exact ih h.2 i a b ha hb

/-- the level check on the numerators (`x = k / D`), in integer arithmetic:
`|1000·M·k − D·(M + 998·j)| · E ≤ 1000·M·D`  ⇔  `|k/D − (1/1000 + 998/1000·j/M)| ≤ 1/E` -/
def closeN (M D E : Nat) : List Nat → Nat → Bool
  | [], _ => true
  | k :: r, j => decide (Int.natAbs ((1000 * M * k : Int) - D * (M + 998 * j)) * E ≤ 1000 * M * D) && closeN M D E r (j + 1)

def sortedN : List Nat → Bool
  | a :: b :: r => decide (a ≤ b) && sortedN (b :: r)
  | _ => true

def toQ (D : Nat) (k : Nat) : ℚ := mkRat (Int.ofNat k) D

theorem toQ_eq (D k : Nat) : toQ D k = (k : ℚ) / D := by
  unfold toQ; rw [Rat.mkRat_eq_div]; simp

theorem close_of_natAbs {M D E k i : Nat} (hM : 0 < M) (hD : 0 < D) (hE : 0 < E)
    (h : Int.natAbs ((1000 * M * k : Int) - D * (M + 998 * i)) * E ≤ 1000 * M * D) :
    |(k : ℚ) / D - (1 / 1000 + 998 / 1000 * (i : ℚ) / M)| ≤ 1 / (E : ℚ) := by
  have hMq : (0 : ℚ) < M := by exact_mod_cast hM
  have hDq : (0 : ℚ) < D := by exact_mod_cast hD
  have hEq : (0 : ℚ) < E := by exact_mod_cast hE
  have e : (k : ℚ) / D - (1 / 1000 + 998 / 1000 * (i : ℚ) / M) =
      ((1000 * M * k - D * (M + 998 * i) : ℤ) : ℚ) / (1000 * M * D) := by
    push_cast; field_simp
  rw [e, abs_div, abs_of_pos (by positivity : (0 : ℚ) < 1000 * M * D), div_le_div_iff₀ (by positivity) hEq, one_mul,
    ← Int.cast_abs, ← Nat.cast_natAbs]
  exact_mod_cast h

theorem closeN_spec (M D E : Nat) (hM : 0 < M) (hD : 0 < D) (hE : 0 < E) (l : List Nat) (i : Nat)
    (h : closeN M D E l i = true) :
    ∀ (j : Nat) (x : ℚ), (l.map (toQ D))[j]? = some x →
      |x - (1 / 1000 + 998 / 1000 * ((i + j : ℕ) : ℚ) / M)| ≤ 1 / (E : ℚ) := by
  induction l generalizing i with
  | nil => intro j x hx; cases hx
  | cons k r ih =>
    simp only [closeN, Bool.and_eq_true, decide_eq_true_eq] at h
    intro j x hx
    cases j with
    | zero => cases hx; rw [toQ_eq]; exact close_of_natAbs hM hD hE h.1
    | succ j => rw [← Nat.add_assoc, Nat.add_right_comm]; exact ih (i + 1) h.2 j x hx

theorem sortedN_spec (D : Nat) (hD : 0 < D) (l : List Nat) (h : sortedN l = true) : sortedB (l.map (toQ D)) = true := by
  induction l with
  | nil => rfl
  | cons a r ih =>
    cases r with
    | nil => rfl
    | cons b r' =>
      simp only [sortedN, Bool.and_eq_true, decide_eq_true_eq] at h
      simp only [List.map_cons, sortedB, Bool.and_eq_true, decide_eq_true_eq]
      refine ⟨?_, by simpa using ih h.2⟩
      rw [toQ_eq, toQ_eq]
      have hDq : (0 : ℚ) < D := by exact_mod_cast hD
      have : (a : ℚ) ≤ b := by exact_mod_cast h.1
      exact div_le_div_of_nonneg_right this (le_of_lt hDq)

def levelsN (t : List Nat) (M D E : Nat) : Bool :=
  decide (t.length = M + 1) && sortedN t && closeN M D E t 0

theorem levelsN_spec (t : List Nat) (M D E : Nat) (hM : 0 < M) (hD : 0 < D) (hE : 0 < E)
    (h : levelsN t M D E = true) : LevelsOK (t.map (toQ D)) M (1 / (E : ℚ)) := by
  simp only [levelsN, Bool.and_eq_true, decide_eq_true_eq] at h
  exact ⟨by simp [h.1.1], (sortedB_iff_pairwise _).mp (sortedN_spec D hD t h.1.2),
    fun j x hx => by simpa using closeN_spec M D E hM hD hE t 0 h.2 j x hx⟩

def allLevelsB (E : Nat) : Bool :=
  (List.range (Gen.steps - 1)).all fun i =>
    match Gen.levelNums[i]? with
    | some t => levelsN t (i + 1) Gen.levelDen E
    | none => false

/-- `levelsN` in one pass over the table (`j` the index of the head, `p` the entry before it) and in truncated
natural-number arithmetic: `|a - b|·E ≤ c` as `(a - b)·E ≤ c` and `(b - a)·E ≤ c`.  The kernel evaluates `Nat`
operations on literals in one step each, whereas `Int.natAbs`, integer subtraction and `decide` are unfolded. -/
def levelsPass (M D E : Nat) : List Nat → Nat → Nat → Bool
  | [], j, _ => j == M + 1
  | k :: r, j, p =>
    Nat.ble p k &&
    Nat.ble ((1000 * M * k - D * (M + 998 * j)) * E) (1000 * M * D) &&
    Nat.ble ((D * (M + 998 * j) - 1000 * M * k) * E) (1000 * M * D) &&
    levelsPass M D E r (j + 1) k

theorem natAbs_sub_mul_le (a b E c : Nat) (h1 : (a - b) * E ≤ c) (h2 : (b - a) * E ≤ c) :
    Int.natAbs ((a : Int) - b) * E ≤ c := by
  rcases Nat.le_total a b with h | h
  · have : Int.natAbs ((a : Int) - b) = b - a := by omega
    rwa [this]
  · have : Int.natAbs ((a : Int) - b) = a - b := by omega
    rwa [this]

theorem levelsPass_spec (M D E : Nat) (t : List Nat) (j p : Nat) (h : levelsPass M D E t j p = true) :
    j + t.length = M + 1 ∧ sortedN (p :: t) = true ∧ closeN M D E t j = true := by
  induction t generalizing j p with
  | nil => simpa [levelsPass, sortedN, closeN] using h
  | cons k r ih =>
    simp only [levelsPass, Bool.and_eq_true, Nat.ble_eq] at h
    obtain ⟨⟨⟨hp, h1⟩, h2⟩, hr⟩ := h
    obtain ⟨hlen, hs, hc⟩ := ih (j + 1) k hr
    refine ⟨by rw [List.length_cons]; omega, by simp only [sortedN, hp, hs, decide_true, Bool.and_self], ?_⟩
    simp only [closeN, hc, Bool.and_true, decide_eq_true_eq]
    have := natAbs_sub_mul_le (1000 * M * k) (D * (M + 998 * j)) E (1000 * M * D) h1 h2
    push_cast at this
    exact this

theorem levelsN_of_pass (t : List Nat) (M D E : Nat) (h : levelsPass M D E t 0 0 = true) :
    levelsN t M D E = true := by
  obtain ⟨hlen, hs, hc⟩ := levelsPass_spec M D E t 0 0 h
  have hs' : sortedN t = true := by
    cases t with
    | nil => rfl
    | cons k r => simp only [sortedN, Bool.and_eq_true] at hs; exact hs.2
  simp only [levelsN, hs', hc, Bool.and_true, decide_eq_true_eq]
  omega

def allLevelsPass (D E : Nat) : List (List Nat) → Nat → Bool
  | [], _ => true
  | t :: ts, M => levelsPass M D E t 0 0 && allLevelsPass D E ts (M + 1)

theorem allLevelsPass_spec (D E : Nat) (ts : List (List Nat)) (M : Nat) (h : allLevelsPass D E ts M = true)
    (i : Nat) (t : List Nat) (ht : ts[i]? = some t) : levelsN t (i + M) D E = true := by
  induction ts generalizing M i with
  | nil => simp at ht
  | cons t' ts ih =>
    simp only [allLevelsPass, Bool.and_eq_true] at h
    cases i with
    | zero =>
      simp only [List.getElem?_cons_zero, Option.some.injEq] at ht
      subst ht
      rw [Nat.zero_add]
      exact levelsN_of_pass _ M D E h.1
    | succ i =>
      rw [Nat.add_right_comm]
      exact ih (M + 1) h.2 i (by simpa using ht)

theorem levelNums_length : Gen.levelNums.length = Gen.steps - 1 := by decide +kernel

theorem allLevels_ok : allLevelsB 1000000000000 = true := by
  have h := allLevelsPass_spec Gen.levelDen 1000000000000 Gen.levelNums 1 (by decide +kernel)
  simp only [allLevelsB, List.all_eq_true, List.mem_range]
  intro i hi
  have hi' : i < Gen.levelNums.length := by rwa [levelNums_length]
  rw [List.getElem?_eq_getElem hi']
  exact h i _ (List.getElem?_eq_getElem hi')

theorem levelTable_eq (m : Nat) (h2 : 2 ≤ m) :
    Gen.levelTable m = (Gen.levelNums[m - 2]?).map (fun t => t.map (toQ Gen.levelDen)) := by
  unfold Gen.levelTable; simp only [h2, if_true]; rfl

theorem levels_source_ok (m : Nat) (h2 : 2 ≤ m) (hm : m ≤ Gen.steps) :
    ∃ lv, Gen.levelTable m = some lv ∧ LevelsOK lv (m - 1) (1 / 1000000000000) := by
  have h := allLevels_ok
  simp only [allLevelsB, List.all_eq_true, List.mem_range] at h
  have := h (m - 2) (by omega)
  rw [levelTable_eq m h2]
  cases ht : Gen.levelNums[m - 2]? with
  | none => simp [ht] at this
  | some t =>
    simp only [ht] at this
    have e2 : m - 2 + 1 = m - 1 := by omega
    rw [e2] at this
    refine ⟨t.map (toQ Gen.levelDen), rfl, ?_⟩
    have := levelsN_spec t (m - 1) Gen.levelDen 1000000000000 (by omega) (by decide) (by norm_num) this
    simpa using this

theorem pValues_gridGap : GridGap Gen.pValues (1 / 250) := gapB_spec _ _ (by decide +kernel)

/-- ★ for the grid of the source and every piece count `m = 2..steps`: `condensation(m)` of a well-formed p-box
contains it (left bound not above, right bound not below, at every step) -/
theorem condensation_contains_source (m : Nat) (h2 : 2 ≤ m) (hm : m ≤ Gen.steps) (P C : PB) (lv : List ℚ)
    (hP : C08.WF Gen.steps P) (hlv : Gen.levelTable m = some lv) (hC : condensation Gen.pValues P lv = .ok C) :
    allLE C.left P.left = true ∧ allLE P.right C.right = true := by
  obtain ⟨lv', h1, hok⟩ := levels_source_ok m h2 hm
  rw [hlv, Option.some.injEq] at h1; subst h1
  exact condensation_contains Gen.pValues Gen.steps (m - 1) (1 / 250) (1 / 1000000000000) P C lv
    C08.pValues_gridOK C08.pValues_gridStep.1 pValues_gridGap (by norm_num) (by norm_num) (by omega) hok hP hC

/-! ## non-vacuity: concrete instances of the hypotheses used above (grid `[1/4, 1/2, 3/4]`, three steps) -/

def okIs (r : Except Err Ivl) (c : Ivl) : Bool := match r with | .ok x => x == c | .error _ => false

example : okIs (alphaCut [1/4, 1/2, 3/4] ⟨[1, 2, 4], [2, 5, 6]⟩ (3/5)) (2, 5) = true := by decide +kernel
example : okIs (cutRaw [1/4, 1/2, 3/4] ⟨[1, 2, 4], [2, 5, 6]⟩ (3/8)) (1, 2) = true := by decide +kernel   -- tie: first
example : okIs (getPI [1/4, 1/2, 3/4] ⟨[1, 2, 4], [2, 5, 6]⟩ (1/2) true) (2, 4) = true := by decide +kernel
example : okIs (getPI [1/4, 1/2, 3/4] ⟨[1, 2, 4], [2, 5, 6]⟩ (1/2) false) (1, 6) = true := by decide +kernel
example : okIs (getPI [1/4, 1/2, 3/4] ⟨[1, 2, 4], [5, 5, 6]⟩ (1/2) true) (1, 6) = true := by decide +kernel  -- fall-back
example : okIs (cdf [1/4, 1/2, 3/4] ⟨[1, 2, 4], [2, 5, 6]⟩ 3) (1/4, 1/2) = true := by decide +kernel
example : stepOf 2 [1, 2, 2, 4] 3 = 2 ∧ stepOf 3 [1, 2, 2, 4] 2 = 2 ∧ stepOf 3 [1, 2, 2, 4] 0 = 0 := by decide +kernel
example : ([1/4, 1/2, 3/4] : List ℚ).Pairwise (· ≤ ·) := by norm_num

end Pun.Props.C18
