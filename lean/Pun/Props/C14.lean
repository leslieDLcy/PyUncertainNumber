import Pun.Model.MixedUp
import Pun.Props.C13
import Pun.Props.C08
/-!
# C14 — mixed propagation outputs are mixtures of interval images of input alpha-cuts

About the functions the driver executes: `Pun.MixedUp.levelTuples`, `gridLevels`,
`alphaCut`, `cutBox`, `propagate`, `slicing`, `imc`.
`stackOut`, `slicingPbox`, `imcPbox` (the p-box handed back: the C08 model `Pun.Dss.stacking` of the focal list).
Reproducibility of interval Monte Carlo is a runtime fact about the copula
sampler (tested by the harness), not a theorem: in the model the sample is an input.

`slicing` and `imc` are the same loop `propagate` over two lists of level tuples, so what holds of both is proved of
`propagate`, or of `imc`, which `slicing` is by definition at the list `levelTuples grid d`.
-/
namespace Pun.MixedUp
open Pun Pun.Arith Pun.Expr Pun.B2B

/-! ## every combination of grid levels, exactly once -/

/-- ★ (membership) a tuple of levels is propagated iff it has one entry per input, each a grid level -/
theorem grid_complete_mem (grid : List Rat) (d : Nat) (t : List Rat) :
    t ∈ levelTuples grid d ↔ t.length = d ∧ ∀ a ∈ t, a ∈ grid := by
  unfold levelTuples
  rw [mem_prodL]
  exact forall₂_replicate_iff grid d t

/-- ★ (count) exactly `k^d` tuples are propagated -/
theorem grid_complete_count (grid : List Rat) (d : Nat) : (levelTuples grid d).length = grid.length ^ d :=
  length_prodL_replicate grid d

/-- ★ (once) with distinct grid levels no tuple is propagated twice; together with membership and count:
slicing uses every one of the `k^d` combinations exactly once -/
theorem grid_complete_nodup (grid : List Rat) (d : Nat) (hg : grid.Nodup) : (levelTuples grid d).Nodup :=
  nodup_prodL _ (fun l hl => by rw [List.eq_of_mem_replicate hl]; exact hg)

example : levelTuples [1, 2] 2 = [[1, 1], [1, 2], [2, 1], [2, 2]] := by decide +kernel

/-! ## the output is the stack of the b2b images of the cut boxes -/

theorem propagate_is_stack (φ : UFun → Rat → Rat) (e : Expr) (pv : List Rat) (vars : List PB) (levels : List (List Rat))
    (s : Strategy) (style : Option Style) (n : Option Nat) (out : List Val)
    (h : propagate φ e pv vars levels s style n = .ok out) :
    List.Forall₂ (fun row r => ∃ box, cutBox pv vars row = .ok box ∧ b2b φ e .list box s style n = .ok r) levels out :=
  (mapM_ok h).imp fun _ _ hr => bind_ok.mp hr

/-- ★ `slicing` is, by definition of the model, one `b2b` image per level tuple of the box of alpha-cuts at
those levels, in order; `imc` the same for the sampled level matrix -/
theorem output_is_stack (φ : UFun → Rat → Rat) (e : Expr) (pv : List Rat) (vars : List PB) (grid : List Rat)
    (s : Strategy) (style : Option Style) (n : Option Nat) (out : List Val)
    (h : slicing φ e pv vars grid s style n = .ok out) :
    List.Forall₂ (fun row r => ∃ box, cutBox pv vars row = .ok box ∧ b2b φ e .list box s style n = .ok r)
      (levelTuples grid vars.length) out :=
  propagate_is_stack φ e pv vars _ s style n out h

theorem imc_is_stack (φ : UFun → Rat → Rat) (e : Expr) (pv : List Rat) (vars : List PB) (levels : List (List Rat))
    (s : Strategy) (style : Option Style) (n : Option Nat) (out : List Val)
    (h : imc φ e pv vars levels s style n = .ok out) :
    List.Forall₂ (fun row r => ∃ box, cutBox pv vars row = .ok box ∧ b2b φ e .list box s style n = .ok r) levels out :=
  propagate_is_stack φ e pv vars levels s style n out h

/-! ## an alpha-cut is one of the p-box's own steps -/

theorem alphaCut_spec (pv : List Rat) (P : PB) (a : Rat) (c : Rat × Rat) (h : alphaCut pv P a = .ok c) :
    P.left[findNearest pv a]? = some c.1 ∧ P.right[findNearest pv a]? = some c.2 ∧ c.1 ≤ c.2 := by
  unfold alphaCut at h
  simp only at h
  split at h
  · rename_i l r hl hr
    split at h
    · cases h; exact ⟨hl, hr, by assumption⟩
    · cases h
  · cases h

/-- ★ all inputs intervals: a p-box whose steps all equal `(lo, hi)` is cut to `(lo, hi)` at every level
(so every focal element is the same `b2b` image of the box of intervals) -/
theorem all_intervals_cut (pv : List Rat) (lo hi : Rat) (m : Nat) (a : Rat) (hlh : lo ≤ hi)
    (hi' : findNearest pv a < m) :
    alphaCut pv ⟨List.replicate m lo, List.replicate m hi⟩ a = .ok (lo, hi) := by
  unfold alphaCut
  simp [hi', hlh]

/-- ★ all inputs precise: a p-box with `left = right` is cut to a zero-width interval at every level -/
theorem precise_cut_degenerate (pv : List Rat) (P : PB) (hP : P.left = P.right) (a : Rat) (c : Rat × Rat)
    (h : alphaCut pv P a = .ok c) : c.1 = c.2 := by
  obtain ⟨h1, h2, _⟩ := alphaCut_spec pv P a c h
  rw [hP] at h1
  exact Option.some.inj (h1.symm.trans h2)

theorem corners_degenerate (box : Box) (hd : ∀ p ∈ box, p.1 = p.2) (c : List Rat) (hc : c ∈ corners box) :
    c = box.map Prod.fst := by
  rw [← List.map_id c]
  exact map_eq_map_iff_forall₂.mpr
    (forall₂_imp_mem (mem_corners.mp hc) fun a p _ hp h => h.elim id fun h2 => h2.trans (hd p hp).symm)

theorem endpoints_degenerate (φ : UFun → Rat → Rat) (e : Expr) (box : Box) (hd : ∀ p ∈ box, p.1 = p.2) (V : Val)
    (h : endpoints φ e box = .ok V) : V.lo = V.hi := by
  obtain ⟨⟨c1, h1, e1⟩, ⟨c2, h2, e2⟩, _⟩ := endpoints_minmax_corners φ e box V h
  rw [corners_degenerate box hd c1 h1] at e1
  rw [corners_degenerate box hd c2 h2] at e2
  exact ok_unique e1 e2

/-! ## probability levels of slicing lie in the unit interval -/

/-- ★ the grid levels lie between the two probability boundaries (hence in `[0,1]`) -/
theorem levels_in_unit (pl ph : Rat) (k : Nat) (h0 : 0 ≤ pl) (h : pl ≤ ph) (h1 : ph ≤ 1) (a : Rat)
    (ha : a ∈ gridLevels pl ph k) : 0 ≤ a ∧ a ≤ 1 := by
  unfold gridLevels at ha
  obtain ⟨i, hi, rfl⟩ := List.mem_map.mp ha
  have hi' := List.mem_range.mp hi
  rcases Nat.eq_zero_or_pos (k - 1) with hk | hk
  · -- `linspace(pl, ph, 1) = [pl]`
    simp only [knot, hk, Nat.cast_zero, div_zero, mul_zero, add_zero]
    exact ⟨h0, le_trans h h1⟩
  · have lo := knot_mono pl ph (k - 1) h 0 i (by omega)
    have hi2 := knot_mono pl ph (k - 1) h i (k - 1) (by omega)
    rw [knot_zero] at lo
    rw [knot_last _ _ _ (by omega)] at hi2
    exact ⟨le_trans h0 lo, le_trans hi2 h1⟩

example : gridLevels (1/1000) (999/1000) 3 = [1/1000, 1/2, 999/1000] := by decide +kernel

/-! ## support inside the image of the supports (vertex strategy) -/

/-- ★ (vertex strategy) a focal element computed by the vertex method on a box of cuts lies inside the direct
interval image of any box containing the cuts — in particular of the box of input supports.
For the direct strategy this is inclusion isotonicity (`Pun.B2B.DirectIsotoneStatement`, Props/C13). -/
theorem support_within_image_endpoints (φ : UFun → Rat → Rat) (hφ : Mono φ) (e : Expr) (cut sup : Box)
    (hsub : SubBox cut sup) (r V : Val) (hr : endpoints φ e cut = .ok r) (hV : direct φ e sup = .ok V) :
    V.lo ≤ r.lo ∧ r.hi ≤ V.hi := by
  obtain ⟨⟨x1, hx1, e1⟩, ⟨x2, hx2, e2⟩⟩ := endpoints_inside_range φ e cut (validBox_of_sub hsub) r hr
  obtain ⟨y1, hy1, m1⟩ := fundamental φ hφ e sup x1 (inBox_of_sub hx1 hsub) V hV
  obtain ⟨y2, hy2, m2⟩ := fundamental φ hφ e sup x2 (inBox_of_sub hx2 hsub) V hV
  cases ok_unique hy1 e1
  cases ok_unique hy2 e2
  exact ⟨m1.1, m2.2⟩

/-- ★ (direct strategy) a focal element computed by direct evaluation on a box of cuts lies inside the direct
interval image of any box containing the cuts — in particular of the box of input supports -/
theorem support_within_image_direct (φ : UFun → Rat → Rat) (hφ : Mono φ) (e : Expr) (cut sup : Box)
    (hsub : SubBox cut sup) (r V : Val) (hr : direct φ e cut = .ok r) (hV : direct φ e sup = .ok V) :
    V.lo ≤ r.lo ∧ r.hi ≤ V.hi :=
  (direct_incl_of_ok φ hφ e cut sup hsub r V hr hV).1

/-- every alpha-cut of a p-box with sorted bounds lies inside its support `[left[0], right[last]]`
(stated for the cut index: any valid index gives a sub-interval when `left`, `right` are sorted) -/
theorem cut_within_support (l r : List Rat) (hl : l.Pairwise (· ≤ ·)) (hr : r.Pairwise (· ≤ ·)) (i : Nat) (x y x0 yN : Rat)
    (hx : l[i]? = some x) (hy : r[i]? = some y) (h0 : l[0]? = some x0) (hN : r.getLast? = some yN) :
    x0 ≤ x ∧ y ≤ yN := by
  rw [List.getLast?_eq_getElem?] at hN
  have hir : i < r.length := (List.getElem?_eq_some_iff.mp hy).1
  exact ⟨Grid.pairwise_get hl (Nat.zero_le i) h0 hx, Grid.pairwise_get hr (by omega) hy hN⟩

/-! ## zero width for every strategy -/

/-- ★ all three strategies return a zero-width interval on a zero-width box (C01 operations preserve zero width;
exponents at least 1, see `PosPow`) -/
theorem b2b_degenerate (φ : UFun → Rat → Rat) (e : Expr) (hp : PosPow e) (form : Form) (box : Box)
    (hd : ∀ p ∈ box, p.1 = p.2) (s : Strategy) (style : Option Style) (n : Option Nat) (V : Val)
    (h : b2b φ e form box s style n = .ok V) : V.lo = V.hi := by
  have one : ∀ (st : Style) (r : Val), perTile φ e st box = .ok r → r.lo = r.hi := by
    intro st r hr
    cases st with
    | direct => exact evalIvl_degenerate φ e hp box hd r hr
    | endpoints => exact endpoints_degenerate φ e box hd r hr
  unfold b2b at h
  split at h
  · cases h
  · cases s with
    | direct => exact one .direct V h
    | endpoints => exact one .endpoints V h
    | unknown => cases h
    | subinterval =>
      change subinterval φ e box style n = .ok V at h
      cases style with
      | none => cases h
      | some st =>
        cases n with
        | none => cases h
        | some m =>
          -- every tile is the box itself, so both ends of the hull are ends of the one result on the box
          obtain ⟨_, ⟨t1, ht1, r1, hr1, e1⟩, ⟨t2, ht2, r2, hr2, e2⟩⟩ := subinterval_spec h
          rw [tiles_degenerate box m hd t1 ht1] at hr1
          rw [tiles_degenerate box m hd t2 ht2] at hr2
          cases ok_unique hr1 hr2
          rw [← e1, ← e2]
          exact one st r1 hr1

theorem cutBox_degenerate (pv : List Rat) (vars : List PB) (hP : ∀ P ∈ vars, P.left = P.right) (row : List Rat)
    (box : Box) (h : cutBox pv vars row = .ok box) : ∀ p ∈ box, p.1 = p.2 := by
  intro p hp
  obtain ⟨va, hva, hcut⟩ := forall₂_right (mapM_ok h) hp
  exact precise_cut_degenerate pv va.1 (hP va.1 (List.of_mem_zip hva).1) va.2 p hcut

/-- ★ all inputs precise: every focal element handed to `stacking` has zero width, for slicing and interval
Monte Carlo alike and for every interval strategy -/
theorem all_precise_focal_degenerate (φ : UFun → Rat → Rat) (e : Expr) (hp : PosPow e) (pv : List Rat) (vars : List PB)
    (hP : ∀ P ∈ vars, P.left = P.right) (levels : List (List Rat)) (s : Strategy) (style : Option Style) (n : Option Nat)
    (out : List Val) (h : propagate φ e pv vars levels s style n = .ok out) : ∀ v ∈ out, v.lo = v.hi := by
  intro v hv
  obtain ⟨row, _, box, hbox, hr⟩ := forall₂_right (propagate_is_stack φ e pv vars levels s style n out h) hv
  exact b2b_degenerate φ e hp .list box (cutBox_degenerate pv vars hP row box hbox) s style n v hr

/-! ## the returned p-box: `stacking` of the focal list (C08 model `Pun.Dss.stacking`) -/

def ecdf (l : List Rat) (t : Rat) : Rat := (1 / (l.length : Rat)) * (l.countP (fun y => decide (y ≤ t)) : Nat)

theorem massLE_equal (l : List Rat) : Grid.massLE (l.zip (Grid.equalW l.length)) = ecdf l := by
  funext t
  unfold Grid.equalW ecdf
  rw [Props.C08.zip_replicate, Props.C08.massLE_const]

theorem ecdf_perm {l l' : List Rat} (h : l.Perm l') : ecdf l = ecdf l' := by
  funext t
  unfold ecdf
  rw [h.length_eq, h.countP_eq]

/-- a focal list `stacking` accepts: at least one element, each a valid interval -/
def FocalOK (out : List Val) : Prop := out ≠ [] ∧ ∀ v ∈ out, v.lo ≤ v.hi

theorem stackOut_genInvOn (g : List Rat) (hg : Props.C08.GridOK g) (out : List Val) (hok : FocalOK out) :
    ∃ l r, stackOut g out = .ok ⟨l, r⟩ ∧
      Grid.GenInvOn g (ecdf (out.map Val.lo)) l ∧ Grid.GenInvOn g (ecdf (out.map Val.hi)) r := by
  have hpos : 0 < out.length := List.length_pos_iff.mpr hok.1
  have hv := Props.C08.validW_equal (out.map Val.lo) out.length (by simp) hpos
  have := Props.C08.stacking_genInvOn g (out.map Val.lo) (out.map Val.hi) (Grid.equalW out.length) (by simp) hv
    ((Grid.allLE_map_iff Val.lo Val.hi out).mpr hok.2) hg
  have e1 := massLE_equal (out.map Val.lo)
  have e2 := massLE_equal (out.map Val.hi)
  simp only [List.length_map] at e1 e2
  rw [e1, e2] at this
  unfold stackOut
  rw [Props.C08.stacking_none, List.length_map]
  exact this

/-- ★ the returned p-box is the equal-weight stack of the focal images: `stacking` succeeds, and at every grid
level `p` the left bound is the generalised inverse at `p` of the empirical distribution function of the lower
ends, the right bound that of the upper ends (smallest end whose share of the focal elements reaches `p`) -/
theorem stackOut_geninv (g : List Rat) (hg : Props.C08.GridOK g) (out : List Val) (hok : FocalOK out) :
    ∃ P, stackOut g out = .ok P ∧ P.left.length = g.length ∧ P.right.length = g.length ∧
      ∀ (i : Nat) (p : Rat), g[i]? = some p → ∃ a b, P.left[i]? = some a ∧ P.right[i]? = some b ∧
        Grid.IsGenInv (ecdf (out.map Val.lo)) p a ∧ Grid.IsGenInv (ecdf (out.map Val.hi)) p b := by
  obtain ⟨l, r, hst, hL, hR⟩ := stackOut_genInvOn g hg out hok
  refine ⟨⟨l, r⟩, hst, hL.1, hR.1, fun i p hp => ?_⟩
  obtain ⟨a, ha, hga⟩ := hL.2 i p hp
  obtain ⟨b, hb, hgb⟩ := hR.2 i p hp
  exact ⟨a, b, ha, hb, hga, hgb⟩

theorem stackOut_sides (g : List Rat) (hg : Props.C08.GridOK g) (out : List Val) (hok : FocalOK out) (P : Dss.PB)
    (hP : stackOut g out = .ok P) :
    Grid.GenInvOn g (ecdf (out.map Val.lo)) P.left ∧ Grid.GenInvOn g (ecdf (out.map Val.hi)) P.right := by
  obtain ⟨l, r, hst, hL, hR⟩ := stackOut_genInvOn g hg out hok
  cases ok_unique hP hst
  exact ⟨hL, hR⟩

/-- ★ the p-box does not depend on the order in which the focal images are produced (meshgrid order, sample order) -/
theorem stackOut_perm (g : List Rat) (hg : Props.C08.GridOK g) (out out' : List Val) (hok : FocalOK out)
    (h : out.Perm out') : stackOut g out = stackOut g out' := by
  have hok' : FocalOK out' := ⟨fun h0 => hok.1 (by subst h0; exact h.eq_nil), fun v hv => hok.2 v (h.mem_iff.mpr hv)⟩
  obtain ⟨l, r, hP, hL, hR⟩ := stackOut_genInvOn g hg out hok
  obtain ⟨l', r', hP', hL', hR'⟩ := stackOut_genInvOn g hg out' hok'
  -- the two empirical distribution functions do not see the order
  rw [ecdf_perm (h.map Val.lo)] at hL
  rw [ecdf_perm (h.map Val.hi)] at hR
  rw [hP, hP', hL.unique hL', hR.unique hR']

theorem geninv_between (l : List Rat) (hne : l ≠ []) (p a : Rat) (h0 : 0 < p) (h1 : p ≤ 1)
    (h : Grid.IsGenInv (ecdf l) p a) : (∃ x ∈ l, x ≤ a) ∧ (∃ x ∈ l, a ≤ x) := by
  have hn : (0 : Rat) < l.length := by exact_mod_cast List.length_pos_iff.mpr hne
  constructor
  · -- otherwise no sample is counted at `a`
    by_contra hc
    have : l.countP (fun y => decide (y ≤ a)) = 0 := by
      rw [List.countP_eq_zero]
      intro x hx
      simpa using fun hxa => hc ⟨x, hx, hxa⟩
    have hF : ecdf l a = 0 := by unfold ecdf; rw [this]; simp
    have := h.1
    rw [hF] at this
    exact absurd h0 (not_lt.mpr this)
  · -- otherwise all samples are counted already at the largest one, which is below `a`
    obtain ⟨M, hM⟩ : ∃ M, B2B.maxL1 l = some M := by
      cases l with
      | nil => exact absurd rfl hne
      | cons x xs => exact ⟨_, rfl⟩
    obtain ⟨b1, b2⟩ := B2B.maxL1_spec hM
    by_contra hc
    have hlt := h.2 M (not_le.mp fun hMa => hc ⟨M, b2, hMa⟩)
    have : l.countP (fun y => decide (y ≤ M)) = l.length := by
      rw [List.countP_eq_length]
      intro x hx
      simpa using b1 x hx
    have hF : ecdf l M = 1 := by unfold ecdf; rw [this]; field_simp
    rw [hF] at hlt
    exact absurd h1 (not_le.mpr hlt)

/-- ★ one bound of the returned p-box (`proj` the matching end of the focal images) never leaves the hull of those
ends: bounds common to all of them hold of every value of the bound -/
theorem side_bounds {g l : List Rat} (hg : Props.C08.GridOK g) {out : List Val} (hne : out ≠ []) (proj : Val → Rat)
    (h : Grid.GenInvOn g (ecdf (out.map proj)) l) {a : Rat} (ha : a ∈ l) {A B : Rat}
    (hAB : ∀ v ∈ out, A ≤ proj v ∧ proj v ≤ B) : A ≤ a ∧ a ≤ B := by
  obtain ⟨i, hi, rfl⟩ := List.getElem_of_mem ha
  obtain ⟨p, hp, hga⟩ := h.get (List.getElem?_eq_getElem hi)
  have hp01 := hg.1 p (List.mem_of_getElem? hp)
  obtain ⟨⟨x, hx, hxa⟩, ⟨y, hy, hya⟩⟩ := geninv_between (out.map proj) (by simpa using hne) p _ hp01.1 hp01.2 hga
  obtain ⟨v, hv, rfl⟩ := List.mem_map.mp hx
  obtain ⟨w, hw, rfl⟩ := List.mem_map.mp hy
  exact ⟨le_trans (hAB v hv).1 hxa, le_trans hya (hAB w hw).2⟩

/-- ★ support inside the image: if every focal image lies in `[A, B]` (e.g. the direct interval image of the input
supports, `support_within_image_direct / _endpoints`), so does the whole returned p-box -/
theorem pbox_within_image (g : List Rat) (hg : Props.C08.GridOK g) (out : List Val) (hok : FocalOK out) (P : Dss.PB)
    (hP : stackOut g out = .ok P) (A B : Rat) (hA : ∀ v ∈ out, A ≤ v.lo ∧ v.hi ≤ B) :
    (∀ a ∈ P.left, A ≤ a ∧ a ≤ B) ∧ (∀ b ∈ P.right, A ≤ b ∧ b ≤ B) := by
  obtain ⟨hL, hR⟩ := stackOut_sides g hg out hok P hP
  exact ⟨fun a ha => side_bounds hg hok.1 Val.lo hL ha fun v hv => ⟨(hA v hv).1, le_trans (hok.2 v hv) (hA v hv).2⟩,
    fun b hb => side_bounds hg hok.1 Val.hi hR hb fun v hv => ⟨le_trans (hA v hv).1 (hok.2 v hv), (hA v hv).2⟩⟩

/-- ★ all inputs intervals: every focal image is the same interval `[lo, hi]` (`all_intervals_cut`), and then the
returned p-box is that interval at every probability level -/
theorem all_intervals_exact (g : List Rat) (hg : Props.C08.GridOK g) (out : List Val) (hok : FocalOK out) (P : Dss.PB)
    (hP : stackOut g out = .ok P) (lo hi : Rat) (hsame : ∀ v ∈ out, v.lo = lo ∧ v.hi = hi) :
    (∀ a ∈ P.left, a = lo) ∧ (∀ b ∈ P.right, b = hi) := by
  obtain ⟨hL, hR⟩ := stackOut_sides g hg out hok P hP
  constructor
  · intro a ha
    have h := side_bounds hg hok.1 Val.lo hL ha fun v hv => ⟨(hsame v hv).1.ge, (hsame v hv).1.le⟩
    exact le_antisymm h.2 h.1
  · intro b hb
    have h := side_bounds hg hok.1 Val.hi hR hb fun v hv => ⟨(hsame v hv).2.ge, (hsame v hv).2.le⟩
    exact le_antisymm h.2 h.1

/-- ★ all inputs precise: zero-width focal images (`all_precise_focal_degenerate`) stack to a p-box whose two
bounds coincide -/
theorem all_precise_degenerate (g : List Rat) (hg : Props.C08.GridOK g) (out : List Val) (hne : out ≠ [])
    (hdeg : ∀ v ∈ out, v.lo = v.hi) (P : Dss.PB) (hP : stackOut g out = .ok P) : P.left = P.right := by
  obtain ⟨hL, hR⟩ := stackOut_sides g hg out ⟨hne, fun v hv => le_of_eq (hdeg v hv)⟩ P hP
  rw [List.map_congr_left hdeg] at hL
  exact hL.unique hR

/-- ★ rank form (multiplicities counted): with the `N` lower ends sorted as `sl`, the left bound at a grid level `p` with
`j/N < p ≤ (j+1)/N` is the `j`-th of them, i.e. the `⌈p·N⌉`-th smallest lower end; likewise the right bound and the
upper ends.  This is the statement the harness oracle checks on the real Staircase at all 200 levels. -/
theorem stackOut_rank (g : List Rat) (hg : Props.C08.GridOK g) (out : List Val) (hok : FocalOK out) (P : Dss.PB)
    (hP : stackOut g out = .ok P) (sl sh : List Rat) (hsl : sl.Perm (out.map Val.lo)) (hsh : sh.Perm (out.map Val.hi))
    (hsl' : sl.Pairwise (· ≤ ·)) (hsh' : sh.Pairwise (· ≤ ·))
    (i j : Nat) (p : Rat) (hp : g[i]? = some p) (h1 : (j : Rat) / out.length < p) (h2 : p ≤ ((j : Rat) + 1) / out.length) :
    (∀ a, sl[j]? = some a → P.left[i]? = some a) ∧ (∀ b, sh[j]? = some b → P.right[i]? = some b) := by
  -- the `j`-th entry of a sorted rearrangement `s` of the ends is their generalised inverse at `p`
  have rank : ∀ {s vals : List Rat}, s.Perm vals → vals.length = out.length → s.Pairwise (· ≤ ·) → ∀ c, s[j]? = some c →
      Grid.IsGenInv (ecdf vals) p c := by
    intro s vals hs hlen hs' c hc
    have hl : s.length = out.length := by rw [hs.length_eq, hlen]
    have := Props.C08.sorted_geninv s out.length hl hs' j c p hc h1 h2
    rwa [← hl, massLE_equal, ecdf_perm hs] at this
  obtain ⟨hL, hR⟩ := stackOut_sides g hg out hok P hP
  obtain ⟨a', ha', hga⟩ := hL.2 i p hp
  obtain ⟨b', hb', hgb⟩ := hR.2 i p hp
  constructor
  · intro a ha
    rw [ha', hga.unique (rank hsl (List.length_map _) hsl' a ha)]
  · intro b hb
    rw [hb', hgb.unique (rank hsh (List.length_map _) hsh' b hb)]

/-! ## end to end: the p-box returned by `slicing` / `interval_monte_carlo` -/

theorem focalOK_of_stackOut (g : List Rat) (out : List Val) (P : Dss.PB) (h : stackOut g out = .ok P) : FocalOK out := by
  unfold stackOut Dss.stacking at h
  simp only [List.length_map, ne_eq, not_true_eq_false, if_false] at h
  split at h
  · cases h
  · rename_i hlen
    split at h
    · cases h
    · rename_i hle
      refine ⟨?_, (Grid.allLE_map_iff Val.lo Val.hi out).mp (by simpa using hle)⟩
      intro h0; subst h0; simp at hlen

/-- ★ interval Monte Carlo returns the `stacking` (C08 model, equal masses) of one `b2b` image per row of the level
matrix that was sampled -/
theorem imcPbox_is_stack (φ : UFun → Rat → Rat) (e : Expr) (pv : List Rat) (vars : List PB) (levels : List (List Rat))
    (s : Strategy) (style : Option Style) (n : Option Nat) (P : Dss.PB)
    (h : imcPbox φ e pv vars levels s style n = .ok P) :
    ∃ out, imc φ e pv vars levels s style n = .ok out ∧
      List.Forall₂ (fun row r => ∃ box, cutBox pv vars row = .ok box ∧ b2b φ e .list box s style n = .ok r) levels out ∧
      Dss.stacking pv (out.map Val.lo) (out.map Val.hi) none = .ok P := by
  obtain ⟨out, hout, h⟩ := bind_ok.mp h
  exact ⟨out, hout, imc_is_stack φ e pv vars levels s style n out hout, h⟩

/-- ★ the same for `slicing`, which is interval Monte Carlo on the level tuples -/
theorem slicingPbox_is_stack (φ : UFun → Rat → Rat) (e : Expr) (pv : List Rat) (vars : List PB) (grid : List Rat)
    (s : Strategy) (style : Option Style) (n : Option Nat) (P : Dss.PB)
    (h : slicingPbox φ e pv vars grid s style n = .ok P) :
    ∃ out, slicing φ e pv vars grid s style n = .ok out ∧
      List.Forall₂ (fun row r => ∃ box, cutBox pv vars row = .ok box ∧ b2b φ e .list box s style n = .ok r)
        (levelTuples grid vars.length) out ∧
      Dss.stacking pv (out.map Val.lo) (out.map Val.hi) none = .ok P :=
  imcPbox_is_stack φ e pv vars (levelTuples grid vars.length) s style n P h

/-- ★ all inputs precise ⇒ the returned p-box has coinciding bounds (interval Monte Carlo; every strategy) -/
theorem imc_all_precise (φ : UFun → Rat → Rat) (e : Expr) (hp : PosPow e) (pv : List Rat) (hg : Props.C08.GridOK pv)
    (vars : List PB) (hP : ∀ Q ∈ vars, Q.left = Q.right) (levels : List (List Rat)) (s : Strategy) (style : Option Style)
    (n : Option Nat) (P : Dss.PB) (h : imcPbox φ e pv vars levels s style n = .ok P) : P.left = P.right := by
  obtain ⟨out, hout, hst⟩ := bind_ok.mp h
  exact all_precise_degenerate pv hg out (focalOK_of_stackOut pv out P hst).1
    (all_precise_focal_degenerate φ e hp pv vars hP levels s style n out hout) P hst

/-- ★ … and slicing -/
theorem slicing_all_precise (φ : UFun → Rat → Rat) (e : Expr) (hp : PosPow e) (pv : List Rat) (hg : Props.C08.GridOK pv)
    (vars : List PB) (hP : ∀ Q ∈ vars, Q.left = Q.right) (grid : List Rat) (s : Strategy) (style : Option Style)
    (n : Option Nat) (P : Dss.PB) (h : slicingPbox φ e pv vars grid s style n = .ok P) : P.left = P.right :=
  imc_all_precise φ e hp pv hg vars hP (levelTuples grid vars.length) s style n P h

/-- ★ output support inside the interval image of the input supports (direct and vertex strategies): if every box of
cuts lies in the box `sup` and direct evaluation over `sup` gives `V`, every value of both bounds of the returned
p-box lies in `V` -/
theorem mixed_within_image (φ : UFun → Rat → Rat) (hφ : Mono φ) (e : Expr) (pv : List Rat) (hg : Props.C08.GridOK pv)
    (vars : List PB) (levels : List (List Rat)) (s : Strategy) (hs : s = .direct ∨ s = .endpoints)
    (style : Option Style) (n : Option Nat) (sup : Box)
    (hsup : ∀ row ∈ levels, ∀ box, cutBox pv vars row = .ok box → SubBox box sup)
    (V : Val) (hV : direct φ e sup = .ok V) (P : Dss.PB) (h : imcPbox φ e pv vars levels s style n = .ok P) :
    (∀ a ∈ P.left, V.lo ≤ a ∧ a ≤ V.hi) ∧ (∀ b ∈ P.right, V.lo ≤ b ∧ b ≤ V.hi) := by
  obtain ⟨out, hout, hall, hst⟩ := imcPbox_is_stack φ e pv vars levels s style n P h
  refine pbox_within_image pv hg out (focalOK_of_stackOut pv out P hst) P hst V.lo V.hi fun v hv => ?_
  obtain ⟨row, hrow, box, hbox, hb⟩ := forall₂_right hall hv
  have hsub := hsup row hrow box hbox
  unfold b2b at hb
  split at hb
  · cases hb
  · rcases hs with rfl | rfl
    · exact support_within_image_direct φ hφ e box sup hsub v V hb hV
    · exact support_within_image_endpoints φ hφ e box sup hsub v V hb hV

/-! ### the grid of the source (`Params.p_values`, regenerated into `Pun.Gen.pValues`) satisfies the grid hypothesis -/

theorem slicing_all_precise_source (φ : UFun → Rat → Rat) (e : Expr) (hp : PosPow e)
    (vars : List PB) (hP : ∀ Q ∈ vars, Q.left = Q.right) (grid : List Rat) (s : Strategy) (style : Option Style)
    (n : Option Nat) (P : Dss.PB) (h : slicingPbox φ e Gen.pValues vars grid s style n = .ok P) : P.left = P.right :=
  slicing_all_precise φ e hp Gen.pValues Props.C08.pValues_gridOK vars hP grid s style n P h

/-- non-vacuity of the hypotheses: a valid focal list, and precise inputs -/
example : FocalOK [.ivl 1 2, .ivl 0 5] :=
  ⟨by simp, by intro v hv; simp at hv; rcases hv with rfl | rfl <;> norm_num [Val.lo, Val.hi]⟩

example : PosPow (.sub (.pow (.var 0) 2) (.un .exp (.var 1))) := ⟨⟨by norm_num, trivial⟩, trivial⟩

end Pun.MixedUp
