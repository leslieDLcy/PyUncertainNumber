import Pun.Props.C01
import Pun.Gen.ArithGen
import Mathlib.Tactic.Linarith
/-!
# C01, generated part: the eight tables as `arithmetic.py` has them at the time of the run

`Pun/Gen/ArithGen.lean` is regenerated from `arithmetic.py` on every run.  Each
product table is proved to select the exact corner hull by evaluating it under
the sixteen outcomes of the four sign tests, as for the hand model
(`hull_of_sign_rules`), so a harmless reordering of the `if`s still passes, a
wrong guard or corner does not; each quotient table is proved equal to the
hand model `divCore` on valid operands, and the zero-straddle guard is proved
to be `c ≤ 0 ∧ 0 ≤ d`.
-/
-- For the tables generated from the present source some simp arguments are idle, and the quotient tables are
-- `divCore` word for word (`gen_div_eq` ends at `rfl`, leaving `hab hcd h0` unused).
set_option linter.unusedSimpArgs false
set_option linter.unusedVariables false
namespace Pun.Gen
open Pun.Arith

set_option hygiene false in
/-- closes `T a b c d = some (min4 …, max4 …)` for a generated product table `T` without the sign rules
of `hull_of_sign_rules`: it splits on the four sign tests and orders the corners by `nlinarith` (with
`a b c d`, `hab`, `hcd` in scope).  The theorems below do not call it. -/
macro "gen_mul_exact" t:ident : tactic => `(tactic|
  (by_cases ha : 0 ≤ a <;> by_cases hb : b ≤ 0 <;> by_cases hc : 0 ≤ c <;> by_cases hd : d ≤ 0 <;>
   simp only [$t:ident, step, ge_iff_le, gt_iff_lt, ← not_le, ha, hb, hc, hd, not_true_eq_false,
     not_false_eq_true, and_true, true_and, and_false, false_and, or_true, true_or, or_false, false_or,
     if_true, if_false] <;>
   (try simp only [not_le] at ha hb hc hd) <;>
   rw [Option.some.injEq, Prod.mk.injEq] <;>
   first
   | (constructor
      · symm
        apply min4_eq
        · first | exact Or.inl rfl | exact Or.inr (Or.inl rfl) | exact Or.inr (Or.inr (Or.inl rfl)) | exact Or.inr (Or.inr (Or.inr rfl))
        all_goals nlinarith
      · symm
        apply max4_eq
        · first | exact Or.inl rfl | exact Or.inr (Or.inl rfl) | exact Or.inr (Or.inr (Or.inl rfl)) | exact Or.inr (Or.inr (Or.inr rfl))
        all_goals nlinarith)
   | (constructor <;> simp only [min4, max4] <;> ac_rfl)))

theorem mul_ss_exact (a b c d : Rat) (hab : a ≤ b) (hcd : c ≤ d) :
    mul_ss a b c d = some (min4 (a*c) (a*d) (b*c) (b*d), max4 (a*c) (a*d) (b*c) (b*d)) := by
  apply hull_of_sign_rules hab hcd
  all_goals
    intros
    simp only [mul_ss, step, ge_iff_le, gt_iff_lt, ← not_le, *, le_refl, zero_mul, mul_zero,
      not_true_eq_false, not_false_eq_true, and_true, true_and, and_false, false_and, or_true, true_or,
      or_false, false_or, if_true, if_false]

theorem mul_aa_exact (a b c d : Rat) (hab : a ≤ b) (hcd : c ≤ d) :
    mul_aa a b c d = some (min4 (a*c) (a*d) (b*c) (b*d), max4 (a*c) (a*d) (b*c) (b*d)) := by
  apply hull_of_sign_rules hab hcd
  all_goals
    intros
    simp only [mul_aa, step, ge_iff_le, gt_iff_lt, ← not_le, *, le_refl, zero_mul, mul_zero,
      not_true_eq_false, not_false_eq_true, and_true, true_and, and_false, false_and, or_true, true_or,
      or_false, false_or, if_true, if_false]

theorem mul_sa_exact (a b c d : Rat) (hab : a ≤ b) (hcd : c ≤ d) :
    mul_sa a b c d = some (min4 (a*c) (a*d) (b*c) (b*d), max4 (a*c) (a*d) (b*c) (b*d)) := by
  apply hull_of_sign_rules hab hcd
  all_goals
    intros
    simp only [mul_sa, step, ge_iff_le, gt_iff_lt, ← not_le, *, le_refl, zero_mul, mul_zero,
      not_true_eq_false, not_false_eq_true, and_true, true_and, and_false, false_and, or_true, true_or,
      or_false, false_or, if_true, if_false]

theorem mul_as_exact (a b c d : Rat) (hab : a ≤ b) (hcd : c ≤ d) :
    mul_as a b c d = some (min4 (a*c) (a*d) (b*c) (b*d), max4 (a*c) (a*d) (b*c) (b*d)) := by
  apply hull_of_sign_rules hab hcd
  all_goals
    intros
    simp only [mul_as, step, ge_iff_le, gt_iff_lt, ← not_le, *, le_refl, zero_mul, mul_zero,
      not_true_eq_false, not_false_eq_true, and_true, true_and, and_false, false_and, or_true, true_or,
      or_false, false_or, if_true, if_false]

set_option hygiene false in
/-- closes `T a b c d = divCore a b c d` on valid operands with a zero-free divisor -/
macro "gen_div_eq" t:ident : tactic => `(tactic|
  first
  | rfl
  | (rcases h0 with h0 | h0
     · have hd0 : 0 < d := lt_of_lt_of_le h0 hcd
       by_cases ha : 0 ≤ a <;> by_cases hb : b ≤ 0 <;>
       simp [$t:ident, divCore, step, ha, hb, h0, hd0, le_of_lt h0, le_of_lt hd0, not_le.mpr h0, not_le.mpr hd0,
         not_lt.mpr (le_of_lt h0), not_lt.mpr (le_of_lt hd0)] <;>
       (first | done | (have ha0 : a = 0 := le_antisymm (le_trans hab hb) ha
                        have hb0 : b = 0 := le_antisymm hb (le_trans ha hab)
                        subst ha0; subst hb0; simp))
     · have hc0 : c < 0 := lt_of_le_of_lt hcd h0
       by_cases ha : 0 ≤ a <;> by_cases hb : b ≤ 0 <;>
       simp [$t:ident, divCore, step, ha, hb, h0, hc0, le_of_lt h0, le_of_lt hc0, not_le.mpr h0, not_le.mpr hc0,
         not_lt.mpr (le_of_lt h0), not_lt.mpr (le_of_lt hc0)] <;>
       (first | done | (have ha0 : a = 0 := le_antisymm (le_trans hab hb) ha
                        have hb0 : b = 0 := le_antisymm hb (le_trans ha hab)
                        subst ha0; subst hb0; simp))))

theorem div_ss_eq (a b c d : Rat) (hab : a ≤ b) (hcd : c ≤ d) (h0 : 0 < c ∨ d < 0) :
    div_ss a b c d = divCore a b c d := by gen_div_eq div_ss

theorem div_aa_eq (a b c d : Rat) (hab : a ≤ b) (hcd : c ≤ d) (h0 : 0 < c ∨ d < 0) :
    div_aa a b c d = divCore a b c d := by gen_div_eq div_aa

theorem div_sa_eq (a b c d : Rat) (hab : a ≤ b) (hcd : c ≤ d) (h0 : 0 < c ∨ d < 0) :
    div_sa a b c d = divCore a b c d := by gen_div_eq div_sa

theorem div_as_eq (a b c d : Rat) (hab : a ≤ b) (hcd : c ≤ d) (h0 : 0 < c ∨ d < 0) :
    div_as a b c d = divCore a b c d := by gen_div_eq div_as

/-- the source's zero-straddle guard is `0 ∈ [c,d]` -/
theorem div_guard_iff (c d : Rat) : div_guard c d ↔ (c ≤ 0 ∧ 0 ≤ d) := by
  unfold div_guard; constructor <;> intro h <;> simpa using h

end Pun.Gen
