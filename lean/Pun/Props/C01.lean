import Pun.Lemmas.Hull
/-!
# C01 — interval `+ − × ÷` return the exact set image

Statements are over all rationals (every finite double is one).  "Exact set
image" = sound for every pointwise pair **and** both endpoints attained.
-/
namespace Pun.Arith

/-- the nine overwriting guards select exactly the corner hull: under each outcome of the four
sign tests the table evaluates to the corners that `hull_of_sign_rules` asks for -/
theorem mulTable_exact (a b c d : Rat) (hab : a ≤ b) (hcd : c ≤ d) :
    mulTable a b c d = some (min4 (a*c) (a*d) (b*c) (b*d), max4 (a*c) (a*d) (b*c) (b*d)) := by
  apply hull_of_sign_rules hab hcd
  all_goals
    intros
    simp only [mulTable, step, ge_iff_le, gt_iff_lt, ← not_le, *, le_refl, zero_mul, mul_zero,
      not_true_eq_false, not_false_eq_true, and_true, and_false, if_true, if_false]

theorem corner_attained (f : Rat → Rat → Rat) {a b c d p q l : Rat} (hab : a ≤ b)
    (hp : c ≤ p ∧ p ≤ d) (hq : c ≤ q ∧ q ≤ d) (h : l = f a p ∨ l = f a q ∨ l = f b p ∨ l = f b q) :
    ∃ x y, a ≤ x ∧ x ≤ b ∧ c ≤ y ∧ y ≤ d ∧ f x y = l := by
  rcases h with rfl | rfl | rfl | rfl
  · exact ⟨a, p, le_rfl, hab, hp.1, hp.2, rfl⟩
  · exact ⟨a, q, le_rfl, hab, hq.1, hq.2, rfl⟩
  · exact ⟨b, p, hab, le_rfl, hp.1, hp.2, rfl⟩
  · exact ⟨b, q, hab, le_rfl, hq.1, hq.2, rfl⟩

/-- the product table's result is the exact set image: sound and both endpoints attained at corners -/
theorem mul_exact_image (a b c d : Rat) (hab : a ≤ b) (hcd : c ≤ d) :
    ∃ l h, mulTable a b c d = some (l, h) ∧
      (∀ x y, a ≤ x → x ≤ b → c ≤ y → y ≤ d → l ≤ x*y ∧ x*y ≤ h) ∧
      (∃ x y, a ≤ x ∧ x ≤ b ∧ c ≤ y ∧ y ≤ d ∧ x*y = l) ∧
      (∃ x y, a ≤ x ∧ x ≤ b ∧ c ≤ y ∧ y ≤ d ∧ x*y = h) :=
  ⟨_, _, mulTable_exact a b c d hab hcd, mul_hull a b c d,
    corner_attained (· * ·) hab ⟨le_rfl, hcd⟩ ⟨hcd, le_rfl⟩ (min4_mem ..),
    corner_attained (· * ·) hab ⟨le_rfl, hcd⟩ ⟨hcd, le_rfl⟩ (max4_mem ..)⟩

example : mulTable (-1) 2 (-3) 4 = some (-6, 8) := by decide +kernel

/-- a divisor containing zero raises `ZeroDivisionError` -/
theorem div_straddle_raises (a b c d : Rat) (h : c ≤ 0 ∧ 0 ≤ d) : divTable a b c d = none :=
  if_pos h

/-- and only then -/
theorem div_raises_iff (a b c d : Rat) : divTable a b c d = none ↔ (c ≤ 0 ∧ 0 ≤ d) := by
  unfold divTable
  by_cases h : c ≤ 0 ∧ 0 ≤ d
  · rw [if_pos h]
    exact iff_of_true rfl h
  · rw [if_neg h]
    exact iff_of_false (Option.some_ne_none _) h

/-- the six guards select the corner hull of the quotients, which is the corner hull of the
products with the reciprocal interval `[d⁻¹, c⁻¹]` -/
theorem divTable_exact (a b c d : Rat) (hab : a ≤ b) (hcd : c ≤ d) (h0 : 0 < c ∨ d < 0) :
    divTable a b c d = some (some (min4 (a/d) (a/c) (b/d) (b/c), max4 (a/d) (a/c) (b/d) (b/c))) := by
  have hinv : d⁻¹ ≤ c⁻¹ := (inv_mem h0 le_rfl hcd).1.trans (inv_mem h0 le_rfl hcd).2
  rcases h0 with hc | hd
  · have hd := hc.trans_le hcd
    have hd' : 0 ≤ d⁻¹ := inv_nonneg.mpr hd.le
    by_cases hb : b ≤ 0 <;> by_cases ha : 0 ≤ a
    all_goals simp only [divTable, divCore, step, div_eq_mul_inv, ge_iff_le, gt_iff_lt, ← not_le, ha, hb,
      hc.not_ge, hd.not_ge, hc.le, not_true_eq_false, not_false_eq_true, and_true, and_false,
      false_and, if_true, if_false]
    · rw [hull_neg_pos hab hinv hb hd']
    · rw [hull_neg_pos hab hinv hb hd']
    · rw [hull_pos_pos hab hinv ha hd']
    · rw [hull_mix_pos hab hinv (le_of_not_ge ha) (le_of_not_ge hb) hd']
  · have hc := hcd.trans_lt hd
    have hc' : c⁻¹ ≤ 0 := inv_nonpos.mpr hc.le
    by_cases hb : b ≤ 0 <;> by_cases ha : 0 ≤ a
    all_goals simp only [divTable, divCore, step, div_eq_mul_inv, ge_iff_le, gt_iff_lt, ← not_le, ha, hb,
      hc.not_ge, hd.not_ge, hd.le, hc.le, not_true_eq_false, not_false_eq_true, and_true, and_false,
      if_true, if_false]
    · rw [hull_neg_neg hab hinv hb hc']
    · rw [hull_neg_neg hab hinv hb hc']
    · rw [hull_pos_neg hab hinv ha hc']
    · rw [hull_mix_neg hab hinv (le_of_not_ge ha) (le_of_not_ge hb) hc']

/-- quotient hull: every x/y lies between the returned endpoints, which are attained at corners -/
theorem divTable_sound (a b c d : Rat) (hab : a ≤ b) (hcd : c ≤ d) (h0 : 0 < c ∨ d < 0) :
    ∃ l h, divTable a b c d = some (some (l, h)) ∧
      (∀ x y, a ≤ x → x ≤ b → c ≤ y → y ≤ d → l ≤ x / y ∧ x / y ≤ h) ∧
      (∃ x y, a ≤ x ∧ x ≤ b ∧ c ≤ y ∧ y ≤ d ∧ x / y = l) ∧
      (∃ x y, a ≤ x ∧ x ≤ b ∧ c ≤ y ∧ y ≤ d ∧ x / y = h) := by
  refine ⟨_, _, divTable_exact a b c d hab hcd h0, fun x y h1 h2 h3 h4 => ?_,
    corner_attained (· / ·) hab ⟨hcd, le_rfl⟩ ⟨le_rfl, hcd⟩ (min4_mem ..),
    corner_attained (· / ·) hab ⟨hcd, le_rfl⟩ ⟨le_rfl, hcd⟩ (max4_mem ..)⟩
  simp only [div_eq_mul_inv]
  exact mul_hull a b d⁻¹ c⁻¹ x y⁻¹ h1 h2 (inv_mem h0 h3 h4).1 (inv_mem h0 h3 h4).2

example : divTable (-1) 2 2 4 = some (some (-1/2, 1)) := by decide +kernel

/-! ### sum, difference, negation: endpoint formulas are the exact image -/

theorem add_exact (a b c d : Rat) (hab : a ≤ b) (hcd : c ≤ d) :
    (∀ x y, a ≤ x → x ≤ b → c ≤ y → y ≤ d → a + c ≤ x + y ∧ x + y ≤ b + d) ∧
    (∃ x y, a ≤ x ∧ x ≤ b ∧ c ≤ y ∧ y ≤ d ∧ x + y = a + c) ∧
    (∃ x y, a ≤ x ∧ x ≤ b ∧ c ≤ y ∧ y ≤ d ∧ x + y = b + d) :=
  ⟨fun _ _ h1 h2 h3 h4 => ⟨add_le_add h1 h3, add_le_add h2 h4⟩,
   ⟨a, c, le_refl _, hab, le_refl _, hcd, rfl⟩, ⟨b, d, hab, le_refl _, hcd, le_refl _, rfl⟩⟩

theorem sub_exact (a b c d : Rat) (hab : a ≤ b) (hcd : c ≤ d) :
    (∀ x y, a ≤ x → x ≤ b → c ≤ y → y ≤ d → a - d ≤ x - y ∧ x - y ≤ b - c) ∧
    (∃ x y, a ≤ x ∧ x ≤ b ∧ c ≤ y ∧ y ≤ d ∧ x - y = a - d) ∧
    (∃ x y, a ≤ x ∧ x ≤ b ∧ c ≤ y ∧ y ≤ d ∧ x - y = b - c) :=
  ⟨fun _ _ h1 h2 h3 h4 => ⟨sub_le_sub h1 h4, sub_le_sub h2 h3⟩,
   ⟨a, d, le_refl _, hab, hcd, le_refl _, rfl⟩, ⟨b, c, hab, le_refl _, le_refl _, hcd, rfl⟩⟩

theorem mkIV_scalar {l h : Rat} (hlh : l ≤ h) : mkIV none [l] [h] = .ok (.I l h) := by
  simp [mkIV, hlh]

theorem neg_exact (a b : Rat) (hab : a ≤ b) :
    neg (.I a b) = .ok (.I (-b) (-a)) ∧ (∀ x, a ≤ x → x ≤ b → -b ≤ -x ∧ -x ≤ -a) :=
  ⟨mkIV_scalar (neg_le_neg hab), fun _ h1 h2 => ⟨neg_le_neg h2, neg_le_neg h1⟩⟩

/-! ### number operands -/

/-- `X * c`: exact for either sign of `c` (scalar interval) -/
theorem mulNum_exact (a b c : Rat) (hab : a ≤ b) :
    ∃ l h, mulNum (IV.ofI a b) c = .ok (.I l h) ∧
      (∀ x, a ≤ x → x ≤ b → l ≤ x * c ∧ x * c ≤ h) ∧
      ((l = a * c ∧ h = b * c) ∨ (l = b * c ∧ h = a * c)) := by
  by_cases hc : c ≥ 0
  · refine ⟨a * c, b * c, ?_, fun x h1 h2 => ⟨?_, ?_⟩, .inl ⟨rfl, rfl⟩⟩
    · simp only [mulNum, hc, if_true]
      exact mkIV_scalar (mul_le_mul_of_nonneg_right hab hc)
    · exact mul_le_mul_of_nonneg_right h1 hc
    · exact mul_le_mul_of_nonneg_right h2 hc
  · have hc' : c ≤ 0 := le_of_not_ge hc
    refine ⟨b * c, a * c, ?_, fun x h1 h2 => ⟨?_, ?_⟩, .inr ⟨rfl, rfl⟩⟩
    · simp only [mulNum, hc, if_false]
      exact mkIV_scalar (mul_le_mul_of_nonpos_right hab hc')
    · exact mul_le_mul_of_nonpos_right h2 hc'
    · exact mul_le_mul_of_nonpos_right h1 hc'

theorem divNum_zero_raises (s : IV) : divNum s 0 = .error .ZeroDivision := by simp [divNum]

/-- `X / c`, `c ≠ 0`: exact for either sign of `c` -/
theorem divNum_exact (a b c : Rat) (hab : a ≤ b) (hc0 : c ≠ 0) :
    ∃ l h, divNum (IV.ofI a b) c = .ok (.I l h) ∧
      (∀ x, a ≤ x → x ≤ b → l ≤ x / c ∧ x / c ≤ h) ∧
      ((l = a / c ∧ h = b / c) ∨ (l = b / c ∧ h = a / c)) := by
  by_cases hc : c > 0
  · refine ⟨a / c, b / c, ?_, fun x h1 h2 => ⟨?_, ?_⟩, .inl ⟨rfl, rfl⟩⟩
    · simp only [divNum, hc0, hc, if_true, if_false]
      exact mkIV_scalar (div_le_div_of_nonneg_right hab hc.le)
    · exact div_le_div_of_nonneg_right h1 hc.le
    · exact div_le_div_of_nonneg_right h2 hc.le
  · have hc' : c ≤ 0 := le_of_not_gt hc
    refine ⟨b / c, a / c, ?_, fun x h1 h2 => ⟨?_, ?_⟩, .inr ⟨rfl, rfl⟩⟩
    · simp only [divNum, hc0, hc, if_false]
      exact mkIV_scalar (div_le_div_of_nonpos_of_le hc' hab)
    · exact div_le_div_of_nonpos_of_le hc' h2
    · exact div_le_div_of_nonpos_of_le hc' h1

/-- `c - X` -/
theorem rsub_exact (a b c : Rat) (hab : a ≤ b) :
    reflected .sub (.N c) (IV.ofI a b) = .ok (.I (c - b) (c - a)) ∧
    (∀ x, a ≤ x → x ≤ b → c - b ≤ c - x ∧ c - x ≤ c - a) :=
  ⟨mkIV_scalar (sub_le_sub_left hab c), fun _ h1 h2 => ⟨sub_le_sub_left h2 c, sub_le_sub_left h1 c⟩⟩

/-- `c / X` raises when `0 ∈ X` -/
theorem rdiv_straddle_raises (a b c : Rat) (h : a ≤ 0 ∧ 0 ≤ b) :
    reflected .div (.N c) (IV.ofI a b) = .error .ZeroDivision := by
  simp [reflected, rdivNum, straddles, IV.ofI, h.1, h.2]

/-- `c / X`, `0 ∉ X`: sound, endpoints are the two corner quotients -/
theorem rdiv_exact (a b c : Rat) (hab : a ≤ b) (h0 : 0 < a ∨ b < 0) :
    ∃ l h, reflected .div (.N c) (IV.ofI a b) = .ok (.I l h) ∧
      (∀ x, a ≤ x → x ≤ b → l ≤ c / x ∧ c / x ≤ h) ∧
      ((l = c / b ∧ h = c / a) ∨ (l = c / a ∧ h = c / b)) := by
  have hst : straddles (IV.ofI a b) = false := by
    simp only [straddles, IV.ofI, List.zip_cons_cons, List.zip_nil_right, List.any_cons, List.any_nil,
      Bool.or_false, Bool.and_eq_false_iff, decide_eq_false_iff_not, not_le, ge_iff_le]
    exact h0
  simp only [div_eq_mul_inv]
  by_cases hc : c ≥ 0
  · refine ⟨c * b⁻¹, c * a⁻¹, ?_, fun x h1 h2 => ⟨?_, ?_⟩, .inl ⟨rfl, rfl⟩⟩
    · simp only [reflected, rdivNum, hst, hc, if_true, div_eq_mul_inv]
      exact mkIV_scalar (mul_le_mul_of_nonneg_left (inv_mem h0 le_rfl hab).1 hc)
    · exact mul_le_mul_of_nonneg_left (inv_mem h0 h1 h2).1 hc
    · exact mul_le_mul_of_nonneg_left (inv_mem h0 h1 h2).2 hc
  · have hc' : c ≤ 0 := le_of_not_ge hc
    refine ⟨c * a⁻¹, c * b⁻¹, ?_, fun x h1 h2 => ⟨?_, ?_⟩, .inr ⟨rfl, rfl⟩⟩
    · simp only [reflected, rdivNum, hst, hc, if_false, div_eq_mul_inv]
      exact mkIV_scalar (mul_le_mul_of_nonpos_left (inv_mem h0 le_rfl hab).1 hc')
    · exact mul_le_mul_of_nonpos_left (inv_mem h0 h1 h2).2 hc'
    · exact mul_le_mul_of_nonpos_left (inv_mem h0 h1 h2).1 hc'

/-! ### degenerate and zero operands -/

theorem mul_degenerate_point (x y : Rat) : mulTable x x y y = some (x*y, x*y) := by
  rw [mulTable_exact x x y y (le_refl _) (le_refl _)]; simp [min4, max4]

theorem mul_zero_interval (c d : Rat) (hcd : c ≤ d) : mulTable 0 0 c d = some (0, 0) := by
  rw [mulTable_exact 0 0 c d (le_refl _) hcd, hull_zero_left]

/-! ### arrays: every shape branch is the scalar table element by element -/

theorem multiply_same_shape_elementwise (l1 h1 l2 h2 : List Rat) (hlen : l1.length = l2.length)
    (hns : ¬ ((IV.ofA l1 h1).scalar && (IV.ofA l2 h2).scalar)) (i : Nat) (hi : i < l1.length) :
    ∃ sh cells, multiply (IV.ofA l1 h1) (IV.ofA l2 h2) = .ok (sh, cells) ∧
      cells[i]? = some (mulTable (l1.getD i 0) (h1.getD i 0) (l2.getD i 0) (h2.getD i 0)) := by
  have hsh : ((IV.ofA l1 h1).sh == (IV.ofA l2 h2).sh) = true := by simp [IV.ofA, hlen]
  refine ⟨_, _, by simp only [multiply, hns, hsh]; rfl, ?_⟩
  simp [IV.ofA, hi]

theorem scalar_ofI (a b : Rat) : (IV.ofI a b).scalar = true := rfl

theorem scalar_ofA (l h : List Rat) (hn : 2 ≤ l.length) : (IV.ofA l h).scalar = false := by
  simp only [IV.scalar, IV.ofA]; simp; omega

theorem multiply_scalar_array_elementwise (a b : Rat) (l2 h2 : List Rat) (hn : 2 ≤ l2.length)
    (i : Nat) (hi : i < l2.length) :
    ∃ sh cells, multiply (IV.ofI a b) (IV.ofA l2 h2) = .ok (sh, cells) ∧
      cells[i]? = some (mulTable a b (l2.getD i 0) (h2.getD i 0)) := by
  have hsh : ((IV.ofI a b).sh == (IV.ofA l2 h2).sh) = false := by simp [IV.ofI, IV.ofA]
  refine ⟨_, _, by simp only [multiply, scalar_ofA l2 h2 hn, hsh, scalar_ofI]; rfl, ?_⟩
  simp [IV.ofA, IV.ofI, hi]

theorem multiply_array_scalar_elementwise (l1 h1 : List Rat) (c d : Rat) (hn : 2 ≤ l1.length)
    (i : Nat) (hi : i < l1.length) :
    ∃ sh cells, multiply (IV.ofA l1 h1) (IV.ofI c d) = .ok (sh, cells) ∧
      cells[i]? = some (mulTable (l1.getD i 0) (h1.getD i 0) c d) := by
  have hsh : ((IV.ofA l1 h1).sh == (IV.ofI c d).sh) = false := by simp [IV.ofI, IV.ofA]
  refine ⟨_, _, by simp only [multiply, scalar_ofA l1 h1 hn, hsh, scalar_ofI]; rfl, ?_⟩
  simp [IV.ofA, IV.ofI, hi]

end Pun.Arith
