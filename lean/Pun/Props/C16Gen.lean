import Pun.Props.C16
import Pun.Gen.DispatchGen
/-!
# C16, generated part: the dispatch tables, operator bodies and the context manager *as the source has them*

`Pun/Gen/DispatchGen.lean` is regenerated on every run from `Staircase.{add,mul,pow,sub,div}`, the bare
operators of `Staircase`, `Distribution.__pow__` and `pba/context.py`.  Everything here is a proof over FINITE
tables (the five dependency codes × nine operators, the shape of three statements of `dependency()`), done by
case analysis / `rfl`.  The equality lemmas lift the unbounded theorems of `Props/C16.lean` (any depth of nesting,
every schedule) to what the source says:

* `bodyGen_eq_method`, `depArgGen_is_ambient`, `operatorGen_eq_operator` — the extracted `match` tables, swap
  chains, delegation targets and `dependency=` arguments coincide with the hand model;
* `subSwapGen_eq`, `divSwapGen_eq`, `swapGen_eq` — the p↔o exchange of `sub` and `div`, also against
  `Pun.PBox.swapPO` (the exchange in C03's sub / div mirror theorems);
* `stepGen_eq_stepCtx`, `runGen_eq_run`, `defaultGen_eq` — set / try-yield-finally-reset(token) is the model's step;
* `operator_eq_method_src`, `unknown_code_fails_in_block_src`, `balanced_restores_src` — the transferred theorems.
-/
namespace Pun.Gen.Dispatch
open Pun Pun.DepCtx

theorem bodyGen_eq_method (op : Op) (d : Code) : bodyGen op d = method op d := by
  cases op <;> cases d <;> rfl

/-- every bare operator passes `get_current_dependency()` -/
theorem depArgGen_is_ambient (op : Op) (c : Ctx) : depArgGen op c = get c := by
  cases op <;> rfl

theorem operatorGen_eq_operator (op : Op) (c : Ctx) : operatorGen op c = operator op c := by
  unfold operatorGen
  rw [depArgGen_is_ambient, bodyGen_eq_method]
  rfl

theorem subSwapGen_eq : subSwapGen = swapPO := by
  funext d; cases d <;> rfl

theorem divSwapGen_eq : divSwapGen = swapPO := by
  funext d; cases d <;> rfl

theorem swapGen_eq : subSwapDepGen = Pun.PBox.swapPO ∧ divSwapDepGen = Pun.PBox.swapPO := by
  constructor <;> (funext d; cases d <;> rfl)

/-- the unmatched-code behaviour: `add` (hence `sub`) raises ValueError, `mul` / `pow` (hence `div`) fall through to
an unbound local -/
theorem unmatched_code_gen (n : Nat) :
    addGen (.unk n) = .error .Value ∧ mulGen (.unk n) = .error .Unbound ∧ powGen (.unk n) = .error .Unbound := by
  refine ⟨rfl, rfl, rfl⟩

/-- `ContextVar(..., default="f")` -/
theorem defaultGen_eq : defaultGen = Ctx.init.cur := rfl

/-- `token = VAR.set(dep_type)` … `finally: VAR.reset(token)` is the model's step, for every way of leaving -/
theorem stepGen_eq_stepCtx (c : Ctx) (e : Ev) : stepGen c e = stepCtx c e := by
  cases e <;> first
    | rfl
    | (cases c with
       | mk cur toks => cases toks <;> rfl)

theorem runGen_eq_run (c : Ctx) (es : List Ev) : runGen c es = run c es := by
  induction es generalizing c with
  | nil => rfl
  | cons e es ih =>
    simp only [runGen, run, stepGen_eq_stepCtx]
    cases stepCtx c e with
    | none => rfl
    | some c' => simp [ih]

/-! ### the property theorems, for the extracted definitions -/

/-- the bare operator (as extracted) is the explicit method (as extracted) at the value read at call time -/
theorem operator_eq_method_src (op : Op) (c : Ctx) : operatorGen op c = bodyGen op (get c) := by
  rw [operatorGen_eq_operator, bodyGen_eq_method]; rfl

/-- every extracted operator fails inside a block with an unknown code, after any well-nested prefix -/
theorem unknown_code_fails_in_block_src (op : Op) (n : Nat) {es : List Ev} (h : Balanced es) (c : Ctx) :
    ∃ c' e, runGen c (Ev.enter (.unk n) :: es) = some c' ∧ operatorGen op c' = .error e := by
  obtain ⟨e, he⟩ := unknown_code_fails op n
  refine ⟨⟨.unk n, c.cur :: c.toks⟩, e, ?_, ?_⟩
  · rw [runGen_eq_run]
    simp only [run, stepCtx, Option.bind_some]
    exact balanced_restores h _
  · rw [operatorGen_eq_operator]; exact he

/-- restoration for every well-nested history with the extracted set / reset semantics -/
theorem balanced_restores_src {es : List Ev} (h : Balanced es) (c : Ctx) : runGen c es = some c := by
  rw [runGen_eq_run]; exact balanced_restores h c

theorem fresh_thread_reads_default : get Ctx.init = defaultGen := rfl

end Pun.Gen.Dispatch
