import Pun.Model.Hedge
import Mathlib.Tactic.Ring
import Mathlib.Tactic.Linarith
import Mathlib.Algebra.Order.Field.Power
import Mathlib.Tactic.IntervalCases
/-!
# C20 — hedged expressions and significant digits decode to intervals about the number

Generic in the keyword table; `Pun/Props/C20Gen.lean` discharges the hypotheses for the table
regenerated from the source.

* `sg_spec` : `sgnumber ν = val ν ∓ u/2`, `u = 10^lastSigExp ν` the unit of the last significant
  digit (last written digit when a point is written, last non-zero digit of an integer mantissa).
* `hedge_contains`, `hedge_endpoint_*`, `hedge_nested` : containment, endpoints, nesting of the forms;
  `hedge_order`, `hedge_left`, `hedge_right` : the same for the keywords of a table that passes the
  checks `nestedOK`, `leftOK`, `rightOK`.
* `parse_render` : reading (`parse`, on `List Char`) what `render` writes gives the numeral back, so the
  tokenised numerals of the theorems are the strings the driver parses and Python sees.
* `sign_commute_*`, `pow10_commute` : the result depends on the sign only through the number
  itself and scales with the exponent.
-/
namespace Pun.Hedge

theorem pow10_eq (e : Int) : pow10 e = (10:ℚ)^e := by
  cases e with
  | ofNat n => simp [pow10]
  | negSucc n => simp [pow10, zpow_negSucc]

theorem pow10_pos (e : Int) : 0 < pow10 e := by
  rw [pow10_eq]; positivity

theorem pow10_add (a b : Int) : pow10 (a + b) = pow10 a * pow10 b := by
  simp only [pow10_eq]; exact zpow_add₀ (by norm_num) a b

theorem pow10_neg_add (d t : Int) : pow10 (-(d + t)) = pow10 (-d) * pow10 (-t) := by
  rw [neg_add, pow10_add]

theorem pow10_neg_sub (t n : Int) : pow10 (-(t - n)) = pow10 (-t) * pow10 n := by
  rw [neg_sub, sub_eq_neg_add, pow10_add]

/-! ## significant digits -/

def trailingZeros (ds : List Nat) : Nat := (ds.reverse.takeWhile (· == 0)).length

def lastSigExp (ν : Numeral) : Int :=
  if ν.hasDot then ν.e - ν.frac.length else ν.e + trailingZeros ν.int

theorem rstrip0_length (ds : List Nat) : ((rstrip0 ds).length : Int) - ds.length = - (trailingZeros ds : Int) := by
  have h := List.takeWhile_append_dropWhile (p := (· == 0)) (l := ds.reverse)
  have hl := congrArg List.length h
  simp only [List.length_append, List.length_reverse] at hl
  simp only [rstrip0, trailingZeros, List.length_reverse]
  omega

theorem sgPm_eq (ν : Numeral) : sgPm ν = pow10 (lastSigExp ν) / 2 := by
  unfold sgPm sgJ lastSigExp
  split
  · rw [← pow10_add]; congr 2; ring
  · rw [rstrip0_length, ← pow10_add]; congr 2; ring

/-- **significant digits**: the interval of half a unit in the last significant digit around
the number, for every numeral (any sign, digits, point, exponent) -/
theorem sg_spec (ν : Numeral) :
    sgnumber ν = (ν.val - pow10 (lastSigExp ν) / 2, ν.val + pow10 (lastSigExp ν) / 2) := by
  simp only [sgnumber, sgPm_eq]

theorem sg_contains (ν : Numeral) : (sgnumber ν).1 < ν.val ∧ ν.val < (sgnumber ν).2 := by
  rw [sg_spec]
  have := div_pos (pow10_pos (lastSigExp ν)) two_pos
  exact ⟨sub_lt_self _ this, lt_add_of_pos_right _ this⟩

example : sgnumber ⟨false, [2, 0, 0], [], false, none⟩ = (150, 250) := by decide +kernel
example : lastSigExp ⟨false, [1, 2], [3, 0], true, some (-4)⟩ = -6 := by decide +kernel

/-! ## numerals: sign and scale -/

theorem val_negate (ν : Numeral) : ν.negate.val = - ν.val := by
  unfold Numeral.val Numeral.negate Numeral.mag Numeral.e
  cases ν.neg <;> simp

theorem d_negate (ν : Numeral) : decipherD ν.negate = decipherD ν := rfl

theorem e_scale (ν : Numeral) (n : Int) : (ν.scale n).e = ν.e + n := by
  simp [Numeral.scale, Numeral.e]

theorem val_scale (ν : Numeral) (n : Int) : (ν.scale n).val = ν.val * pow10 n := by
  have he := e_scale ν n
  unfold Numeral.val Numeral.mag
  rw [he]
  have : ν.e + n - (ν.frac.length : Int) = (ν.e - ν.frac.length) + n := by ring
  simp only [Numeral.scale, this, pow10_add]
  split <;> ring

theorem d_scale (ν : Numeral) (n : Int) : decipherD (ν.scale n) = decipherD ν - n := by
  unfold decipherD
  rw [e_scale]
  simp only [Numeral.scale]
  ring

/-! ## hedges -/

def EB.le : EB → EB → Prop
  | .ninf, _ => True
  | _, .pinf => True
  | .fin a, .fin b => a ≤ b
  | _, _ => False

/-- `a ⊆ b` -/
def Ivl.sub (a b : Ivl) : Prop := EB.le b.lo a.lo ∧ EB.le a.hi b.hi

def EB.scale (c : Rat) : EB → EB
  | .fin r => .fin (r * c)
  | e => e

def Ivl.scale (c : Rat) (i : Ivl) : Ivl := ⟨i.lo.scale c, i.hi.scale c⟩

def EB.shift (t : Rat) : EB → EB
  | .fin r => .fin (r + t)
  | e => e

def Ivl.shift (t : Rat) (i : Ivl) : Ivl := ⟨i.lo.shift t, i.hi.shift t⟩

theorem lookup_mem (tbl : List (String × Form)) (kw : String) (f : Form) (h : lookup tbl kw = some f) :
    (kw, f) ∈ tbl := by
  induction tbl with
  | nil => simp [lookup] at h
  | cons hd tl ih =>
    obtain ⟨k, g⟩ := hd
    simp only [lookup] at h
    split at h
    · rename_i hk
      cases h; subst hk; simp
    · exact List.mem_cons_of_mem _ (ih h)

theorem hedge_of_lookup {tbl : List (String × Form)} {kw : String} {f : Form}
    (h : lookup tbl kw = some f) (ν : Numeral) (sq : Rat) : hedge tbl kw ν sq = hedgeForm f ν sq := by
  simp only [hedge, h]

/-- symmetric hedges contain the stated number, symmetrically -/
theorem hedge_contains (k : Rat) (j : Nat) (ν : Numeral) (sq : Rat) (hk : 0 ≤ k) :
    ∃ w, 0 ≤ w ∧ hedgeForm (.sym k j) ν sq = some ⟨.fin (ν.val - w), .fin (ν.val + w)⟩ :=
  ⟨k * pow10 (-(decipherD ν + j)), mul_nonneg hk (pow10_pos _).le, rfl⟩

theorem count_contains (ν : Numeral) (sq : Rat) (hs : 0 ≤ sq) :
    hedgeForm .count ν sq = some ⟨.fin (ν.val - sq), .fin (ν.val + sq)⟩ ∧ ν.val - sq ≤ ν.val ∧ ν.val ≤ ν.val + sq := by
  refine ⟨rfl, ?_, ?_⟩ <;> linarith

/-- `almost`, `below` end at the number -/
theorem hedge_endpoint_left (k : Rat) (ν : Numeral) (sq : Rat) (hk : 0 < k) :
    ∃ lo, lo < ν.val ∧ hedgeForm (.left k) ν sq = some ⟨.fin lo, .fin ν.val⟩ :=
  ⟨ν.val - k * pow10 (-(decipherD ν)), sub_lt_self _ (mul_pos hk (pow10_pos _)), rfl⟩

/-- `over`, `above` start at the number -/
theorem hedge_endpoint_right (k : Rat) (ν : Numeral) (sq : Rat) (hk : 0 < k) :
    ∃ hi, ν.val < hi ∧ hedgeForm (.right k) ν sq = some ⟨.fin ν.val, .fin hi⟩ :=
  ⟨ν.val + k * pow10 (-(decipherD ν)), lt_add_of_pos_right _ (mul_pos hk (pow10_pos _)), rfl⟩

theorem hedge_endpoint_atMost (ν : Numeral) (sq : Rat) :
    hedgeForm .atMost ν sq = some ⟨.ninf, .fin ν.val⟩ := rfl

theorem hedge_endpoint_atLeast (ν : Numeral) (sq : Rat) :
    hedgeForm .atLeast ν sq = some ⟨.fin ν.val, .pinf⟩ := rfl

/-- half-widths compared in units of the last digit compare the same way at every decimal place -/
theorem sym_width_le {k₁ k₂ : Rat} {j₁ j₂ : Nat} (d : Int)
    (h : k₁ * pow10 (-(j₁ : Int)) ≤ k₂ * pow10 (-(j₂ : Int))) :
    k₁ * pow10 (-(d + j₁)) ≤ k₂ * pow10 (-(d + j₂)) := by
  rw [pow10_neg_add, pow10_neg_add, mul_left_comm k₁, mul_left_comm k₂]
  exact mul_le_mul_of_nonneg_left h (pow10_pos _).le

theorem sym_sub {x w₁ w₂ : Rat} (h : w₁ ≤ w₂) :
    Ivl.sub ⟨.fin (x - w₁), .fin (x + w₁)⟩ ⟨.fin (x - w₂), .fin (x + w₂)⟩ :=
  And.intro (sub_le_sub_left h x) ((add_le_add_iff_left x).mpr h)

theorem hedge_nested (k₁ k₂ : Rat) (j₁ j₂ : Nat) (ν : Numeral) (sq : Rat)
    (h : k₁ * pow10 (-(j₁ : Int)) ≤ k₂ * pow10 (-(j₂ : Int))) :
    ∃ a b, hedgeForm (.sym k₁ j₁) ν sq = some a ∧ hedgeForm (.sym k₂ j₂) ν sq = some b ∧ a.sub b :=
  ⟨_, _, rfl, rfl, sym_sub (sym_width_le _ h)⟩

/-- table-level check used by `C20Gen`: the three keywords are symmetric forms with ordered widths -/
def nestedOK (tbl : List (String × Form)) : Bool :=
  match lookup tbl "exactly", lookup tbl "about", lookup tbl "around" with
  | some (.sym k₁ j₁), some (.sym k₂ j₂), some (.sym k₃ j₃) =>
    decide (0 ≤ k₁ ∧ k₁ * pow10 (-(j₁ : Int)) ≤ k₂ * pow10 (-(j₂ : Int)) ∧ k₂ * pow10 (-(j₂ : Int)) ≤ k₃ * pow10 (-(j₃ : Int)))
  | _, _, _ => false

/-- **exactly ⊆ about ⊆ around** for every numeral, for any table passing `nestedOK` -/
theorem hedge_order (tbl : List (String × Form)) (h : nestedOK tbl = true) (ν : Numeral) (sq : Rat) :
    ∃ a b c, hedge tbl "exactly" ν sq = some a ∧ hedge tbl "about" ν sq = some b ∧ hedge tbl "around" ν sq = some c
      ∧ a.sub b ∧ b.sub c ∧ EB.le a.lo (.fin ν.val) ∧ EB.le (.fin ν.val) a.hi := by
  unfold nestedOK at h
  split at h
  · rename_i k₁ j₁ k₂ j₂ k₃ j₃ h1 h2 h3
    obtain ⟨hk, h12, h23⟩ := of_decide_eq_true h
    have hw := mul_nonneg hk (pow10_pos (-(decipherD ν + j₁))).le
    exact ⟨_, _, _, hedge_of_lookup h1 ν sq, hedge_of_lookup h2 ν sq, hedge_of_lookup h3 ν sq,
      sym_sub (sym_width_le _ h12), sym_sub (sym_width_le _ h23), sub_le_self _ hw, le_add_of_nonneg_right hw⟩
  · cases h

/-- table-level checks used by `C20Gen`: `kw` is a one-sided form of positive width -/
def leftOK (tbl : List (String × Form)) (kw : String) : Bool :=
  match lookup tbl kw with
  | some (.left k) => decide (0 < k)
  | _ => false

def rightOK (tbl : List (String × Form)) (kw : String) : Bool :=
  match lookup tbl kw with
  | some (.right k) => decide (0 < k)
  | _ => false

theorem hedge_left (tbl : List (String × Form)) (kw : String) (h : leftOK tbl kw = true) (ν : Numeral) (sq : Rat) :
    ∃ lo, lo < ν.val ∧ hedge tbl kw ν sq = some ⟨.fin lo, .fin ν.val⟩ := by
  unfold leftOK at h
  split at h
  · rename_i k hk
    rw [hedge_of_lookup hk]
    exact hedge_endpoint_left k ν sq (of_decide_eq_true h)
  · cases h

theorem hedge_right (tbl : List (String × Form)) (kw : String) (h : rightOK tbl kw = true) (ν : Numeral) (sq : Rat) :
    ∃ hi, ν.val < hi ∧ hedge tbl kw ν sq = some ⟨.fin ν.val, .fin hi⟩ := by
  unfold rightOK at h
  split at h
  · rename_i k hk
    rw [hedge_of_lookup hk]
    exact hedge_endpoint_right k ν sq (of_decide_eq_true h)
  · cases h

/-! ## commutation -/

/-- changing the sign of the number mirrors a symmetric hedge -/
theorem sign_commute_sym (k : Rat) (j : Nat) (ν : Numeral) (sq : Rat) :
    hedgeForm (.sym k j) ν.negate sq =
      some ⟨.fin (-(ν.val + k * pow10 (-(decipherD ν + j)))), .fin (-(ν.val - k * pow10 (-(decipherD ν + j))))⟩ := by
  simp only [hedgeForm, val_negate, d_negate]
  congr 3 <;> ring

/-- for every interval-valued form except `order`, the offsets from the number do not
depend on the sign: the result for `−ν` is the result for `ν` translated by `−2·val ν` -/
theorem sign_commute_offsets (f : Form) (ν : Numeral) (sq : Rat)
    (hf : match f with | .order _ _ => False | .text => False | _ => True) :
    hedgeForm f ν.negate sq = (hedgeForm f ν sq).map (Ivl.shift (-2 * ν.val)) := by
  cases f <;> simp only [hedgeForm, val_negate, d_negate, Option.map, Ivl.shift, EB.shift] at * <;>
    (congr 3 <;> ring)

/-- multiplying the number by `10^n` (exponent field) multiplies the interval by `10^n`
(all interval-valued forms except `count`) -/
theorem pow10_commute (f : Form) (ν : Numeral) (n : Int) (sq : Rat) (hf : f ≠ .count) :
    hedgeForm f (ν.scale n) sq = (hedgeForm f ν sq).map (Ivl.scale (pow10 n)) := by
  cases f with
  | count => exact absurd rfl hf
  | text => rfl
  | order a b =>
    simp only [hedgeForm, val_scale]
    split
    · rfl
    · simp only [Option.map, Ivl.scale, EB.scale, mul_div_right_comm, mul_assoc]
  | _ =>
    simp only [hedgeForm, val_scale, d_scale, sub_add_eq_add_sub, pow10_neg_sub, Option.map, Ivl.scale,
      EB.scale, sub_mul, add_mul, mul_assoc]

example : hedgeForm (.sym 2 0) ⟨true, [2, 0, 0], [], false, none⟩ 0 = some ⟨.fin (-202), .fin (-198)⟩ := by
  decide +kernel
example : hedgeForm (.sym 2 0) ⟨false, [0], [5], true, none⟩ 0 = some ⟨.fin (3/10), .fin (7/10)⟩ := by
  decide +kernel

/-! ## characters: `parse ∘ render = id` -/

theorem charDigit_digitChar (d : Nat) (h : d < 10) : charDigit (digitChar d) = some d := by
  interval_cases d <;> decide

theorem toLower_digitChar (d : Nat) (h : d < 10) : (digitChar d).toLower = digitChar d := by
  interval_cases d <;> decide

theorem digitChar_ne (d : Nat) (h : d < 10) :
    digitChar d ≠ 'e' ∧ digitChar d ≠ '.' ∧ digitChar d ≠ '-' ∧ digitChar d ≠ '+' := by
  interval_cases d <;> decide

theorem parseSign_digit (d : Nat) (h : d < 10) (r : List Char) :
    parseSign (digitChar d :: r) = (false, digitChar d :: r) := by
  interval_cases d <;> rfl

theorem parseDigits_map (ds : List Nat) (h : ∀ d ∈ ds, d < 10) :
    parseDigits (ds.map digitChar) = some ds := by
  induction ds with
  | nil => rfl
  | cons d ds ih =>
    have h1 := charDigit_digitChar d (h d (by simp))
    have h2 := ih (fun x hx => h x (by simp [hx]))
    unfold parseDigits at *
    simp [List.mapM_cons, h1, h2]

theorem splitOnce_prefix (c : Char) (xs r : List Char) (h : c ∉ xs) :
    splitOnce c (xs ++ r) = (xs ++ (splitOnce c r).1, (splitOnce c r).2) := by
  induction xs with
  | nil => rfl
  | cons x xs ih =>
    have hx : x ≠ c := fun e => h (by simp [e])
    simp [splitOnce, hx, ih fun hm => h (by simp [hm])]

theorem natDigitsAux_spec : ∀ (fuel n : Nat) (acc : List Nat), n < fuel →
    ∃ ds, natDigitsAux fuel n acc = ds ++ acc ∧ (∀ d ∈ ds, d < 10) ∧ ds ≠ [] ∧
      ∀ a0, ds.foldl (fun a d => 10 * a + d) a0 = a0 * 10 ^ ds.length + n := by
  intro fuel
  induction fuel with
  | zero => intro n acc h; omega
  | succ fuel ih =>
    intro n acc h
    unfold natDigitsAux
    by_cases hn : n < 10
    · simp only [hn, if_true]
      exact ⟨[n], rfl, by simpa using hn, by simp, by intro a0; simp; ring⟩
    · simp only [hn, if_false]
      obtain ⟨ds, h1, h2, h3, h4⟩ := ih (n / 10) (n % 10 :: acc) (by omega)
      refine ⟨ds ++ [n % 10], by simp [h1], ?_, by simp, ?_⟩
      · intro d hd
        rcases List.mem_append.mp hd with hd | hd
        · exact h2 d hd
        · simp at hd; omega
      · intro a0
        rw [List.foldl_append, h4]
        simp only [List.foldl_cons, List.foldl_nil, List.length_append, List.length_cons, List.length_nil]
        have := Nat.div_add_mod n 10
        ring_nf
        omega

theorem natDigits_spec (n : Nat) :
    (∀ d ∈ natDigits n, d < 10) ∧ natDigits n ≠ [] ∧ digitsVal (natDigits n) = n := by
  obtain ⟨ds, h1, h2, h3, h4⟩ := natDigitsAux_spec (n + 1) n [] (by omega)
  have : natDigits n = ds := by simp [natDigits, h1]
  rw [this]
  exact ⟨h2, h3, by simpa [digitsVal] using h4 0⟩

theorem parseIntC_renderInt (e : Int) : parseIntC (renderInt e) = some e := by
  obtain ⟨h1, h2, h3⟩ := natDigits_spec e.natAbs
  have hp := parseDigits_map _ h1
  unfold parseIntC renderInt
  by_cases he : e < 0
  · simp only [he, if_true, List.cons_append, List.nil_append, parseSign]
    have : (natDigits e.natAbs).map digitChar ≠ [] := by simpa using h2
    simp only [this, if_false, hp, Option.map, h3]
    congr 1; omega
  · simp only [he, if_false, List.nil_append]
    cases hds : natDigits e.natAbs with
    | nil => exact absurd hds h2
    | cons d ds =>
      have hd : d < 10 := h1 d (by simp [hds])
      rw [hds] at hp h3
      simp only [List.map_cons] at hp ⊢
      rw [parseSign_digit d hd]
      simp only [List.cons_ne_nil, if_false, hp, Option.map, h3]
      simp
      omega

/-- a numeral as the harness writes it: decimal digits, fraction digits only after a point,
at least one digit -/
def Numeral.Valid (ν : Numeral) : Prop :=
  (∀ d ∈ ν.int, d < 10) ∧ (∀ d ∈ ν.frac, d < 10) ∧ (ν.hasDot = false → ν.frac = []) ∧
  (ν.int ≠ [] ∨ ν.frac ≠ [])

theorem renderInt_chars (e : Int) : ∀ c ∈ renderInt e, c.toLower = c ∧ c ≠ 'e' := by
  intro c hc
  unfold renderInt at hc
  rcases List.mem_append.mp hc with h | h
  · split at h
    · simp at h; subst h; decide
    · simp at h
  · obtain ⟨d, hd, rfl⟩ := List.mem_map.mp h
    have := (natDigits_spec e.natAbs).1 d hd
    exact ⟨toLower_digitChar d this, (digitChar_ne d this).1⟩

def mantChars (ν : Numeral) : List Char :=
  (if ν.neg then ['-'] else []) ++ ν.int.map digitChar ++
  (if ν.hasDot then '.' :: ν.frac.map digitChar else [])

theorem mant_chars (ν : Numeral) (hv : ν.Valid) : ∀ c ∈ mantChars ν, c.toLower = c ∧ c ≠ 'e' := by
  obtain ⟨hi, hf, _, _⟩ := hv
  intro c hc
  unfold mantChars at hc
  simp only [List.mem_append] at hc
  rcases hc with (h | h) | h
  · split at h
    · simp at h; subst h; decide
    · simp at h
  · obtain ⟨d, hd, rfl⟩ := List.mem_map.mp h
    exact ⟨toLower_digitChar d (hi d hd), (digitChar_ne d (hi d hd)).1⟩
  · split at h
    · simp only [List.mem_cons] at h
      rcases h with rfl | h
      · decide
      · obtain ⟨d, hd, rfl⟩ := List.mem_map.mp h
        exact ⟨toLower_digitChar d (hf d hd), (digitChar_ne d (hf d hd)).1⟩
    · simp at h

/-- **reading what was written gives the numeral back**: the tokenised numeral model is tied
to the character strings by `parse ∘ render = id` on valid numerals -/
theorem parse_render (ν : Numeral) (hv : ν.Valid) : parse (render ν) = some ν := by
  have hv' := hv
  obtain ⟨hi, hf, hwf, hne⟩ := hv
  have hrender : render ν = mantChars ν ++ (match ν.exp with | none => [] | some e => 'e' :: renderInt e) := rfl
  have hlow : (render ν).map Char.toLower = render ν := by
    have : ∀ c ∈ render ν, c.toLower = c := by
      intro c hc
      rw [hrender] at hc
      rcases List.mem_append.mp hc with h | h
      · exact (mant_chars ν hv' c h).1
      · cases he : ν.exp with
        | none => simp [he] at h
        | some e =>
          simp only [he, List.mem_cons] at h
          rcases h with rfl | h
          · decide
          · exact (renderInt_chars e c h).1
    calc (render ν).map Char.toLower = (render ν).map id := List.map_congr_left this
      _ = render ν := List.map_id _
  have hnoe : 'e' ∉ mantChars ν := fun h => (mant_chars ν hv' 'e' h).2 rfl
  have hsplitE : splitOnce 'e' (render ν) =
      (mantChars ν, match ν.exp with | none => none | some e => some (renderInt e)) := by
    rw [hrender]
    cases ν.exp with
    | none => simpa [splitOnce] using splitOnce_prefix 'e' _ [] hnoe
    | some e => simpa [splitOnce] using splitOnce_prefix 'e' _ ('e' :: renderInt e) hnoe
  let body := ν.int.map digitChar ++ (if ν.hasDot then '.' :: ν.frac.map digitChar else [])
  have hsign : parseSign (mantChars ν) = (ν.neg, body) := by
    unfold mantChars
    cases hn : ν.neg
    · simp only [if_false, Bool.false_eq_true, List.nil_append]
      cases hint : ν.int with
      | nil =>
        cases hd : ν.hasDot <;> simp [body, hint, hd, parseSign]
      | cons d ds =>
        have := parseSign_digit d (hi d (by simp [hint]))
        simp [body, hint, this]
    · simp [body, parseSign]
  have hnodot : '.' ∉ ν.int.map digitChar := by
    intro h
    obtain ⟨d, hd, he⟩ := List.mem_map.mp h
    exact (digitChar_ne d (hi d hd)).2.1 he
  have hsplitD : splitOnce '.' body =
      (ν.int.map digitChar, if ν.hasDot then some (ν.frac.map digitChar) else none) := by
    cases hd : ν.hasDot
    · simpa [body, hd, splitOnce] using splitOnce_prefix '.' _ [] hnodot
    · simpa [body, hd, splitOnce] using splitOnce_prefix '.' _ ('.' :: ν.frac.map digitChar) hnodot
  have hpi := parseDigits_map ν.int hi
  have hpf := parseDigits_map ν.frac hf
  have hnn : ¬ (ν.int = [] ∧ ν.frac = []) := fun ⟨a, b⟩ => hne.elim (fun h => h a) (fun h => h b)
  unfold parse
  rw [hlow, hsplitE]
  simp only [hsign, hsplitD, hpi]
  -- what is left are the two optional parts: no point (then no fraction digits), no exponent
  obtain ⟨ng, ip, fp, dot, ex⟩ := ν
  cases dot
  · obtain rfl : fp = [] := hwf rfl
    cases ex <;> simpa [parseIntC_renderInt] using hnn
  · cases ex <;> simpa [hpf, parseIntC_renderInt] using hnn

example : parse "-12.30e-4".toList = some ⟨true, [1, 2], [3, 0], true, some (-4)⟩ := by decide +kernel
example : render ⟨true, [1, 2], [3, 0], true, some (-4)⟩ = "-12.30e-4".toList := by decide +kernel
example : Numeral.Valid ⟨true, [1, 2], [3, 0], true, some (-4)⟩ := by
  refine ⟨?_, ?_, ?_, ?_⟩ <;> simp

end Pun.Hedge
