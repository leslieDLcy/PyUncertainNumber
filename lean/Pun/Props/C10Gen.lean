import Pun.Props.C10
import Pun.Gen.FreeGen
/-!
# C10, generated part: the closed-form bound formulas *as the source has them now*

`Pun/Gen/FreeGen.lean` is regenerated from `pba/pbox_free.py` and `pba/params.py` on every run
(`harness/pv/translator/free.py`): level lists and element formulas of `min_mean`, `mean_std`, `min_max_mean`, the
two `np.where` masks of `min_max_median` (evaluated on `Params.p_values`), the inner call of `max_mean`.
Each generated definition is proved equal to the corresponding piece of the hand model `Pun.Model.Free`, so the
theorems of `Props/C10` are about the formulas the source contains today: a changed index range, level, sign,
comparison or operand in the source makes one of these proofs fail.
-/
namespace Pun.Gen.Free
open Pun Pun.Free

theorem steps_eq : steps = 200 := by decide

theorem min_mean_jjj_eq (m μ : ℚ) : min_mean_jjj m μ = (List.range 199).map lvR := by
  unfold min_mean_jjj; decide +kernel

theorem min_mean_right_eq (m μ : ℚ) : min_mean_right m μ = minMeanRight m μ := by
  unfold min_mean_right minMeanRight
  rw [min_mean_jjj_eq, List.map_map]; rfl

theorem max_mean_eq (M μ : ℚ) :
    maxMean M μ = (match minMean (max_mean_inner M μ).1 (max_mean_inner M μ).2 with
      | .ok p => negPB p
      | .error e => .error e) := by
  unfold maxMean
  rfl

/-! ## mean_std (`np.sqrt` is the abstract `sq`; the hand model's tables are `sq` at the source's arguments) -/

theorem mean_std_iii_eq (μ σ : ℚ) : mean_std_iii μ σ = (List.range 199).map lvI := by
  unfold mean_std_iii; decide +kernel

theorem mean_std_jjj_eq (μ σ : ℚ) : mean_std_jjj μ σ = (List.range 199).map lvR := by
  unfold mean_std_jjj; decide +kernel

theorem mean_std_left_eq (sq : ℚ → ℚ) (μ σ : ℚ) :
    mean_std_left sq μ σ = meanStdLeft (fun k => sq (1 / lvI k - 1)) μ σ := by
  unfold mean_std_left meanStdLeft
  rw [mean_std_iii_eq, List.map_map]; rfl

theorem mean_std_right_eq (sq : ℚ → ℚ) (μ σ : ℚ) :
    mean_std_right sq μ σ = meanStdRight (fun k => sq (lvR k / (1 - lvR k))) μ σ := by
  unfold mean_std_right meanStdRight
  rw [mean_std_jjj_eq, List.map_map]; rfl

/-! ## min_max_mean (the hand model additionally raises `ZeroDivisionError` where Python divides by zero) -/

theorem min_max_mean_mid_eq (a b μ : ℚ) : min_max_mean_mid a b μ = (b - μ) / (b - a) := rfl

theorem min_max_mean_ii_eq (a b μ : ℚ) : min_max_mean_ii a b μ = (List.range 200).map lvL := by
  unfold min_max_mean_ii; decide +kernel

theorem min_max_mean_jj_eq (a b μ : ℚ) : min_max_mean_jj a b μ = (List.range 200).map lvR := by
  unfold min_max_mean_jj; decide +kernel

theorem min_max_mean_left_agrees (a b μ : ℚ) (k : Nat) (hk : k < 200) (v : ℚ)
    (h : mmmLeftAt a b μ (min_max_mean_mid a b μ) k = .ok v) : (min_max_mean_left a b μ)[k]? = some v := by
  unfold min_max_mean_left
  rw [min_max_mean_ii_eq, List.map_map, range_map_get _ hk]
  rcases mmmLeftAt_ok h with ⟨h1, rfl⟩ | ⟨h1, -, rfl⟩
  · exact congrArg some (if_pos h1)
  · exact congrArg some (if_neg h1)

theorem min_max_mean_right_agrees (a b μ : ℚ) (k : Nat) (hk : k < 200) (v : ℚ)
    (h : mmmRightAt a b μ (min_max_mean_mid a b μ) k = .ok v) : (min_max_mean_right a b μ)[k]? = some v := by
  unfold min_max_mean_right
  rw [min_max_mean_jj_eq, List.map_map, range_map_get _ hk]
  rcases mmmRightAt_ok h with ⟨h1, rfl⟩ | ⟨h1, -, rfl⟩
  · exact congrArg some (if_pos h1)
  · exact congrArg some (if_neg h1)

/-! ## min_max_median: the masks `p_values < 0.5`, `p_values >= 0.5` on `linspace(.001,.999,200)` -/

theorem min_max_median_left_eq (a b med : ℚ) : min_max_median_left a b med = medianLeft a med := rfl
theorem min_max_median_right_eq (a b med : ℚ) : min_max_median_right a b med = medianRight b med := rfl

end Pun.Gen.Free
