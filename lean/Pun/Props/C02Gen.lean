import Pun.Gen.FrechetGen
import Pun.Lemmas.FrechetInterp
import Mathlib.Tactic.Ring
/-!
# C02 / C03 — the loop of `frechet_op`, regenerated from the source, is the hand model

`Pun.Gen.Frechet.spec` is what `harness/pv/translator/frechet.py` read in `operation.frechet_op` on this run:
the index ranges `j, k, jj, kk` (affine in the loop variable and the number of steps), the reductions, the
bound arrays, the two sorts and the order of the returned pair.  The theorem below proves, for every pair
of operands whose four bound arrays have one common length `n` (any `n`) and every binary operation, that
executing that specification gives exactly `Pun.PBox.frechetOp` — the function about which validity,
tightness and enclosure are proved in `Props/C02.lean` (and which `Props/C03.lean` compares the other
rules with).  A source edit that changes a range, a reduction, a bound or a sort breaks this proof.
-/
namespace Pun.C02Gen
open Pun Pun.PBox Pun.FrechetInterp Pun.Gen.Frechet

theorem left_half_eq (op : Rat → Rat → Rat) (x y : PB) (h : y.left.length = x.left.length) :
    half spec.left op x y = frechetLeftRaw op x.left y.left := by
  unfold half frechetLeftRaw
  apply List.map_congr_left
  intro i hi
  have hi' : i < x.left.length := List.mem_range.mp hi
  simp only [spec, Side.of, Red.ap, Aff.eval]
  -- `j = arange(0, i+1)`, `k = arange(i, -1, -1)`
  have e1 : (0 : Int) + 0 * (i : Int) + 0 * (x.left.length : Int) = ((0 : Nat) : Int) := by simp
  have e2 : (1 : Int) + 1 * (i : Int) + 0 * (x.left.length : Int) = ((i + 1 : Nat) : Int) := by
    push_cast; ring
  have e3 : (0 : Int) + 1 * (i : Int) + 0 * (x.left.length : Int) = ((i + 1 : Nat) : Int) - 1 := by
    push_cast; ring
  have e4 : (-1 : Int) + 0 * (i : Int) + 0 * (x.left.length : Int) = ((0 : Nat) : Int) - 1 := by simp
  rw [e1, e2, e3, e4, gather_arange_up x.left 0 (i + 1) (by omega),
    gather_arange_down y.left (i + 1) 0 (by omega), List.drop_zero, List.drop_zero]

theorem right_half_eq (op : Rat → Rat → Rat) (x y : PB) (h : y.right.length = x.right.length) :
    half spec.right op x y = frechetRightRaw op x.right y.right := by
  unfold half frechetRightRaw
  apply List.map_congr_left
  intro i hi
  simp only [spec, Side.of, Red.ap, Aff.eval]
  -- `jj = arange(i, n)`, `kk = arange(n-1, i-1, -1)`
  have e1 : (0 : Int) + 1 * (i : Int) + 0 * (x.right.length : Int) = (i : Int) := by ring
  have e2 : (0 : Int) + 0 * (i : Int) + 1 * (x.right.length : Int) = (x.right.length : Int) := by ring
  have e3 : (-1 : Int) + 0 * (i : Int) + 1 * (x.right.length : Int) = (y.right.length : Int) - 1 := by
    rw [h]; ring
  have e4 : (-1 : Int) + 1 * (i : Int) + 0 * (x.right.length : Int) = (i : Int) - 1 := by ring
  rw [e1, e2, e3, e4, gather_arange_up x.right i _ (le_refl _),
    gather_arange_down y.right _ i (le_refl _), List.take_length, List.take_length]

/-- **the regenerated `frechet_op` is the model's `frechetOp`**, for operands of any common length -/
theorem frechetGen_eq_model (op : Rat → Rat → Rat) (x y : PB)
    (hl : y.left.length = x.left.length) (hr : y.right.length = x.right.length) :
    frechetGen spec op x y = frechetOp op x y := by
  unfold frechetGen frechetOp
  rw [left_half_eq op x y hl, right_half_eq op x y hr]
  simp [spec]

/-- the hypotheses are met by two 3-step boxes; the generated loop computes the model's value there -/
example : frechetGen spec (· + ·) ⟨[1, 2, 4], [2, 3, 6]⟩ ⟨[0, 1, 1], [1, 2, 5]⟩
    = frechetOp (· + ·) ⟨[1, 2, 4], [2, 3, 6]⟩ ⟨[0, 1, 1], [1, 2, 5]⟩ :=
  frechetGen_eq_model _ _ _ rfl rfl

end Pun.C02Gen
