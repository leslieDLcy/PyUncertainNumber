import Pun.Lemmas.Elem
import Mathlib.Algebra.Order.Ring.Abs
import Mathlib.Algebra.Order.Ring.Basic
import Mathlib.Algebra.Order.GroupWithZero.Basic
import Mathlib.Algebra.Order.Monoid.Unbundled.Pow
/-!
# C05 — interval elementary functions and integer powers enclose every pointwise value

All statements are about the definitions of `Pun.Model.Elem` that the driver executes.
Transcendental functions are abstract (`s`, `f`, `E : ℚ → ℚ`) with exactly the order facts used.
-/
namespace Pun.Elem

/-! ## cosine, sine, tangent: the scalar case analyses are sound

The ℚ instances of the theorems of `Lemmas/Elem.lean`. -/

/-- Soundness of the cosine case analysis for ANY function that is `T`-periodic, bounded by ±1,
antitone on the first half period and monotone on the second.  Reduced endpoints are given by their
defining decomposition `lo = yl + kl·T`, `0 ≤ yl < T` (what `%` computes). -/
theorem cos_sound (s : ℚ → ℚ) (T : ℚ) (hT : 0 < T)
    (per : ∀ (x : ℚ) (k : ℤ), s (x + k * T) = s x)
    (bd : ∀ x, -1 ≤ s x ∧ s x ≤ 1)
    (anti : ∀ u v, 0 ≤ u → u ≤ v → v ≤ T / 2 → s v ≤ s u)
    (mono : ∀ u v, T / 2 ≤ u → u ≤ v → v ≤ T → s u ≤ s v)
    (lo hi x yl yh yx : ℚ) (kl kh kx : ℤ)
    (hlo : lo = yl + kl * T) (hyl0 : 0 ≤ yl) (hylT : yl < T)
    (hhi : hi = yh + kh * T) (hyh0 : 0 ≤ yh) (hyhT : yh < T)
    (hx : x = yx + kx * T) (hyx0 : 0 ≤ yx) (hyxT : yx < T)
    (h1 : lo ≤ x) (h2 : x ≤ hi) (sh : Shape)
    (hsh : cosShape (hi - lo) yl yh T = some sh) :
    (bounds (s yl) (s yh) sh).1 ≤ s x ∧ s x ≤ (bounds (s yl) (s yh) sh).2 := by
  rw [← cosShapeK_rat] at hsh
  exact cos_soundK s T hT per bd anti mono ⟨hlo, hyl0, hylT⟩ ⟨hhi, hyh0, hyhT⟩ ⟨hx, hyx0, hyxT⟩ h1 h2 hsh

theorem sin_sound (s : ℚ → ℚ) (T : ℚ) (hT : 0 < T)
    (per : ∀ (x : ℚ) (k : ℤ), s (x + k * T) = s x)
    (bd : ∀ x, -1 ≤ s x ∧ s x ≤ 1)
    (m1 : ∀ u v, 0 ≤ u → u ≤ v → v ≤ T / 4 → s u ≤ s v)
    (a2 : ∀ u v, T / 4 ≤ u → u ≤ v → v ≤ 3 * (T / 4) → s v ≤ s u)
    (m3 : ∀ u v, 3 * (T / 4) ≤ u → u ≤ v → v ≤ T → s u ≤ s v)
    (lo hi x yl yh yx : ℚ) (kl kh kx : ℤ)
    (hlo : lo = yl + kl * T) (hyl0 : 0 ≤ yl) (hylT : yl < T)
    (hhi : hi = yh + kh * T) (hyh0 : 0 ≤ yh) (hyhT : yh < T)
    (hx : x = yx + kx * T) (hyx0 : 0 ≤ yx) (hyxT : yx < T)
    (h1 : lo ≤ x) (h2 : x ≤ hi) (sh : Shape)
    (hsh : sinShape (hi - lo) yl yh T = some sh) :
    (bounds (s yl) (s yh) sh).1 ≤ s x ∧ s x ≤ (bounds (s yl) (s yh) sh).2 := by
  rw [← sinShapeK_rat] at hsh
  exact sin_soundK s T hT per bd m1 a2 m3 ⟨hlo, hyl0, hylT⟩ ⟨hhi, hyh0, hyhT⟩ ⟨hx, hyx0, hyxT⟩ h1 h2 hsh

theorem tan_sound (t : ℚ → ℚ) (P : ℚ) (hP : 0 < P)
    (per : ∀ (x : ℚ) (k : ℤ), t (x + k * P) = t x)
    (m1 : ∀ u v, 0 ≤ u → u ≤ v → v < P / 2 → t u ≤ t v)
    (m2 : ∀ u v, P / 2 < u → u ≤ v → v ≤ P → t u ≤ t v)
    (lo hi x zl zh zx : ℚ) (kl kh kx : ℤ)
    (hlo : lo = zl + kl * P) (hzl0 : 0 ≤ zl) (hzlP : zl < P)
    (hhi : hi = zh + kh * P) (hzh0 : 0 ≤ zh) (hzhP : zh < P)
    (hx : x = zx + kx * P) (hzx0 : 0 ≤ zx) (hzxP : zx < P)
    (h1 : lo ≤ x) (h2 : x ≤ hi)
    (hfin : tanInf (hi - lo) zl zh P = false) :
    zx ≠ P / 2 ∧ t zl ≤ t x ∧ t x ≤ t zh := by
  rw [← tanInfK_rat] at hfin
  exact tan_soundK t P hP per m1 m2 ⟨hlo, hzl0, hzlP⟩ ⟨hhi, hzh0, hzhP⟩ ⟨hx, hzx0, hzxP⟩ h1 h2 hfin

/-- a width of at least one period always gives the unbounded interval -/
theorem tan_wide (w zl zh P : ℚ) (h : P ≤ w) : tanInf w zl zh P = true :=
  decide_eq_true (Or.inl h)

/-! ## array form = scalar form, totality

A masked assignment `ov c v ·` of the array form is one `if c then some v else ·` of the scalar form, so
the two forms are compared test by test; under the negations of all tests no position of the reduced
endpoints is left, which is totality of the scalar form. -/

theorem ite_some_eq_ov {c c' : Prop} [Decidable c] [Decidable c'] {v r : Shape} {o : Option Shape}
    (hc : c ↔ c') (h : ¬c → o = some r) : (if c then some v else o) = some (ov c' v r) := by
  unfold ov
  by_cases hp : c
  · rw [if_pos hp, if_pos (hc.mp hp)]
  · rw [if_neg hp, if_neg (mt hc.mpr hp), h hp]

theorem cosVec_eq_scalar (w : ℚ) {yl yh T : ℚ} (_ : 0 < T) (hyl0 : 0 ≤ yl) (hylT : yl ≤ T) (hyh0 : 0 ≤ yh) (hyhT : yh ≤ T) :
    cosShape w yl yh T = some (cosVecShape w yl yh T) := by
  simp only [cosShape, cosVecShape]
  rw [← ite_or]
  refine ite_some_eq_ov Iff.rfl fun n1 => ?_
  refine ite_some_eq_ov Iff.rfl fun n2 => ?_
  refine ite_some_eq_ov Iff.rfl fun n3 => ?_
  refine ite_some_eq_ov Iff.rfl fun n4 => ?_
  refine ite_some_eq_ov Iff.rfl fun n5 => ?_
  exfalso
  rcases le_total yl (T / 2) with l | l <;> rcases le_total yh (T / 2) with h | h
  · rcases le_or_gt yl yh with c | c
    · exact n5 ⟨c, ⟨hyl0, l⟩, ⟨hyh0, h⟩⟩
    · exact n1 (Or.inr (Or.inl ⟨c, ⟨hyl0, l⟩, ⟨hyh0, h⟩⟩))
  · exact n4 ⟨⟨hyl0, l⟩, ⟨h, hyhT⟩⟩
  · exact n3 ⟨⟨l, hylT⟩, ⟨hyh0, h⟩⟩
  · rcases le_or_gt yl yh with c | c
    · exact n2 ⟨c, ⟨l, hylT⟩, ⟨h, hyhT⟩⟩
    · exact n1 (Or.inr (Or.inr ⟨c, ⟨l, hylT⟩, ⟨h, hyhT⟩⟩))

/-- the early returns of the scalar sine test `lo` from below and `hi` from above only; with `yl ≤ yh`
that places both endpoints, which is what the masks of the array form test -/
theorem band_iff {a b yl yh : ℚ} :
    (a ≤ yl ∧ yh ≤ b) ∧ yl ≤ yh ↔ (a ≤ yl ∧ yl ≤ b) ∧ (a ≤ yh ∧ yh ≤ b) ∧ yl ≤ yh :=
  ⟨fun ⟨⟨h1, h2⟩, c⟩ => ⟨⟨h1, c.trans h2⟩, ⟨h1.trans c, h2⟩, c⟩, fun ⟨⟨h1, _⟩, ⟨_, h2⟩, c⟩ => ⟨⟨h1, h2⟩, c⟩⟩

theorem third_cases {y T : ℚ} (a b : ℚ) (h0 : 0 ≤ y) (hT : y ≤ T) :
    (0 ≤ y ∧ y ≤ a) ∨ (a ≤ y ∧ y ≤ b) ∨ (b ≤ y ∧ y ≤ T) := by
  rcases le_total y a with h | h
  · exact Or.inl ⟨h0, h⟩
  · rcases le_total y b with h' | h'
    · exact Or.inr (Or.inl ⟨h, h'⟩)
    · exact Or.inr (Or.inr ⟨h', hT⟩)

theorem sinVec_eq_scalar (w : ℚ) {yl yh T : ℚ} (_ : 0 < T) (hyl0 : 0 ≤ yl) (hylT : yl ≤ T) (hyh0 : 0 ≤ yh) (hyhT : yh ≤ T) :
    sinShape w yl yh T = some (sinVecShape w yl yh T) := by
  simp only [sinShape, sinVecShape]
  refine ite_some_eq_ov Iff.rfl fun n0 => ?_
  refine ite_some_eq_ov band_iff fun e1 => ?_
  refine ite_some_eq_ov band_iff fun e2 => ?_
  refine ite_some_eq_ov band_iff fun e3 => ?_
  refine ite_some_eq_ov (by simp only [not_le]) fun n1 => ?_
  -- the other two rows of this test are the first and third early return
  refine ite_some_eq_ov ⟨fun h => ?_, fun h => Or.inr (Or.inl h)⟩ fun n2 => ?_
  · rcases h with ⟨l, h, c⟩ | h | ⟨l, h, c⟩
    · exact absurd ⟨⟨l.1, h.2⟩, c⟩ e1
    · exact h
    · exact absurd ⟨⟨l.1, h.2⟩, c⟩ e3
  refine ite_some_eq_ov Iff.rfl fun n3 => ?_
  refine ite_some_eq_ov Iff.rfl fun n4 => ?_
  exfalso
  rcases third_cases (T / 4) (3 * (T / 4)) hyl0 hylT with l | l | l <;>
    rcases third_cases (T / 4) (3 * (T / 4)) hyh0 hyhT with h | h | h
  · rcases le_or_gt yl yh with c | c
    · exact e1 ⟨⟨l.1, h.2⟩, c⟩
    · exact n1 (Or.inl ⟨l, h, c⟩)
  · exact n3 (Or.inl ⟨l, h⟩)
  · exact n1 (Or.inr (Or.inl ⟨l, h⟩))
  · exact n4 (Or.inl ⟨l, h⟩)
  · rcases le_or_gt yl yh with c | c
    · exact e2 ⟨⟨l.1, h.2⟩, c⟩
    · exact n1 (Or.inr (Or.inr (Or.inl ⟨l, h, c⟩)))
  · exact n4 (Or.inr ⟨l, h⟩)
  · exact n2 (Or.inr (Or.inl ⟨l, h⟩))
  · exact n3 (Or.inr ⟨l, h⟩)
  · rcases le_or_gt yl yh with c | c
    · exact e3 ⟨⟨l.1, h.2⟩, c⟩
    · exact n1 (Or.inr (Or.inr (Or.inr ⟨l, h, c⟩)))

/-! ## statements about the functions the driver executes -/

theorem fmodR_decomp (x T : ℚ) (hT : 0 < T) :
    x = fmodR x T + (⌊x / T⌋ : ℤ) * T ∧ 0 ≤ fmodR x T ∧ fmodR x T < T :=
  fmod_decompK x T hT

theorem mkI_of_le {a b : ℚ} (h : a ≤ b) : mkI a b = .ok (a, b) := if_pos h

theorem mkI_ok {a b : ℚ} {p : ℚ × ℚ} (h : mkI a b = .ok p) : p = (a, b) ∧ a ≤ b := by
  unfold mkI at h
  split_ifs at h with c
  · exact ⟨by cases h; rfl, c⟩

theorem trigI_encloses {o : Option Shape} {sl sh v : ℚ} {p : ℚ × ℚ} (hp : trigI o sl sh = .ok p)
    (hv : ∀ s, o = some s → (bounds sl sh s).1 ≤ v ∧ v ≤ (bounds sl sh s).2) : p.1 ≤ v ∧ v ≤ p.2 := by
  cases o with
  | none => cases hp
  | some s =>
    obtain ⟨rfl, -⟩ := mkI_ok hp
    exact hv s rfl

/-- bounds that enclose a value are ordered, so the constructor's assertion passes -/
theorem trigI_returns {o : Option Shape} {s : Shape} {sl sh v : ℚ} (ho : o = some s)
    (hv : (bounds sl sh s).1 ≤ v ∧ v ≤ (bounds sl sh s).2) : ∃ p, trigI o sl sh = .ok p := by
  subst ho
  exact ⟨_, mkI_of_le (hv.1.trans hv.2)⟩

/-- `sin_sound` with the reduction the model computes -/
theorem sin_sound_fmodR (s : ℚ → ℚ) (T : ℚ) (hT : 0 < T)
    (per : ∀ (x : ℚ) (k : ℤ), s (x + k * T) = s x)
    (bd : ∀ x, -1 ≤ s x ∧ s x ≤ 1)
    (m1 : ∀ u v, 0 ≤ u → u ≤ v → v ≤ T / 4 → s u ≤ s v)
    (a2 : ∀ u v, T / 4 ≤ u → u ≤ v → v ≤ 3 * (T / 4) → s v ≤ s u)
    (m3 : ∀ u v, 3 * (T / 4) ≤ u → u ≤ v → v ≤ T → s u ≤ s v)
    (lo hi x : ℚ) (h1 : lo ≤ x) (h2 : x ≤ hi) (sh : Shape)
    (hsh : sinShape (hi - lo) (fmodR lo T) (fmodR hi T) T = some sh) :
    (bounds (s (fmodR lo T)) (s (fmodR hi T)) sh).1 ≤ s x ∧ s x ≤ (bounds (s (fmodR lo T)) (s (fmodR hi T)) sh).2 := by
  rw [← sinShapeK_rat] at hsh
  exact sin_soundK s T hT per bd m1 a2 m3 (fmodR_decomp lo T hT) (fmodR_decomp hi T hT) (fmodR_decomp x T hT) h1 h2 hsh

theorem cos_sound_fmodR (s : ℚ → ℚ) (T : ℚ) (hT : 0 < T)
    (per : ∀ (x : ℚ) (k : ℤ), s (x + k * T) = s x)
    (bd : ∀ x, -1 ≤ s x ∧ s x ≤ 1)
    (anti : ∀ u v, 0 ≤ u → u ≤ v → v ≤ T / 2 → s v ≤ s u)
    (mono : ∀ u v, T / 2 ≤ u → u ≤ v → v ≤ T → s u ≤ s v)
    (lo hi x : ℚ) (h1 : lo ≤ x) (h2 : x ≤ hi) (sh : Shape)
    (hsh : cosShape (hi - lo) (fmodR lo T) (fmodR hi T) T = some sh) :
    (bounds (s (fmodR lo T)) (s (fmodR hi T)) sh).1 ≤ s x ∧ s x ≤ (bounds (s (fmodR lo T)) (s (fmodR hi T)) sh).2 := by
  rw [← cosShapeK_rat] at hsh
  exact cos_soundK s T hT per bd anti mono (fmodR_decomp lo T hT) (fmodR_decomp hi T hT) (fmodR_decomp x T hT) h1 h2 hsh

theorem tan_sound_fmodR (t : ℚ → ℚ) (P : ℚ) (hP : 0 < P)
    (per : ∀ (x : ℚ) (k : ℤ), t (x + k * P) = t x)
    (m1 : ∀ u v, 0 ≤ u → u ≤ v → v < P / 2 → t u ≤ t v)
    (m2 : ∀ u v, P / 2 < u → u ≤ v → v ≤ P → t u ≤ t v)
    (lo hi x : ℚ) (h1 : lo ≤ x) (h2 : x ≤ hi)
    (hfin : tanInf (hi - lo) (fmodR lo P) (fmodR hi P) P = false) :
    fmodR x P ≠ P / 2 ∧ t (fmodR lo P) ≤ t x ∧ t x ≤ t (fmodR hi P) := by
  rw [← tanInfK_rat] at hfin
  exact tan_soundK t P hP per m1 m2 (fmodR_decomp lo P hP) (fmodR_decomp hi P hP) (fmodR_decomp x P hP) h1 h2 hfin

/-- **sine encloses** : what the scalar form returns on `[lo,hi]` (reduced endpoints computed by the
model's `%`, values of `s` at them) contains `s x` for every `x ∈ [lo,hi]`, for any `s` with period
`T`, bounded by ±1, increasing / decreasing / increasing on the three pieces cut at `T/4`, `3T/4`. -/
theorem sin_encloses (s : ℚ → ℚ) (T : ℚ) (hT : 0 < T)
    (per : ∀ (x : ℚ) (k : ℤ), s (x + k * T) = s x)
    (bd : ∀ x, -1 ≤ s x ∧ s x ≤ 1)
    (m1 : ∀ u v, 0 ≤ u → u ≤ v → v ≤ T / 4 → s u ≤ s v)
    (a2 : ∀ u v, T / 4 ≤ u → u ≤ v → v ≤ 3 * (T / 4) → s v ≤ s u)
    (m3 : ∀ u v, 3 * (T / 4) ≤ u → u ≤ v → v ≤ T → s u ≤ s v)
    (lo hi x : ℚ) (h1 : lo ≤ x) (h2 : x ≤ hi) (p : ℚ × ℚ)
    (hp : sinI T (hi - lo) (fmodR lo T) (fmodR hi T) (s (fmodR lo T)) (s (fmodR hi T)) = .ok p) :
    p.1 ≤ s x ∧ s x ≤ p.2 :=
  trigI_encloses hp (sin_sound_fmodR s T hT per bd m1 a2 m3 lo hi x h1 h2)

/-- the scalar sine never fails on a proper interval: neither falls off the end nor trips the
constructor's assertion -/
theorem sin_returns (s : ℚ → ℚ) (T : ℚ) (hT : 0 < T)
    (per : ∀ (x : ℚ) (k : ℤ), s (x + k * T) = s x)
    (bd : ∀ x, -1 ≤ s x ∧ s x ≤ 1)
    (m1 : ∀ u v, 0 ≤ u → u ≤ v → v ≤ T / 4 → s u ≤ s v)
    (a2 : ∀ u v, T / 4 ≤ u → u ≤ v → v ≤ 3 * (T / 4) → s v ≤ s u)
    (m3 : ∀ u v, 3 * (T / 4) ≤ u → u ≤ v → v ≤ T → s u ≤ s v)
    (lo hi : ℚ) (h : lo ≤ hi) :
    ∃ p, sinI T (hi - lo) (fmodR lo T) (fmodR hi T) (s (fmodR lo T)) (s (fmodR hi T)) = .ok p := by
  obtain ⟨-, dl0, dlT⟩ := fmodR_decomp lo T hT
  obtain ⟨-, dh0, dhT⟩ := fmodR_decomp hi T hT
  have hv := sinVec_eq_scalar (hi - lo) hT dl0 dlT.le dh0 dhT.le
  exact trigI_returns hv (sin_sound_fmodR s T hT per bd m1 a2 m3 lo hi lo le_rfl h _ hv)

theorem cos_encloses (s : ℚ → ℚ) (T : ℚ) (hT : 0 < T)
    (per : ∀ (x : ℚ) (k : ℤ), s (x + k * T) = s x)
    (bd : ∀ x, -1 ≤ s x ∧ s x ≤ 1)
    (anti : ∀ u v, 0 ≤ u → u ≤ v → v ≤ T / 2 → s v ≤ s u)
    (mono : ∀ u v, T / 2 ≤ u → u ≤ v → v ≤ T → s u ≤ s v)
    (lo hi x : ℚ) (h1 : lo ≤ x) (h2 : x ≤ hi) (p : ℚ × ℚ)
    (hp : cosI T (hi - lo) (fmodR lo T) (fmodR hi T) (s (fmodR lo T)) (s (fmodR hi T)) = .ok p) :
    p.1 ≤ s x ∧ s x ≤ p.2 :=
  trigI_encloses hp (cos_sound_fmodR s T hT per bd anti mono lo hi x h1 h2)

theorem cos_returns (s : ℚ → ℚ) (T : ℚ) (hT : 0 < T)
    (per : ∀ (x : ℚ) (k : ℤ), s (x + k * T) = s x)
    (bd : ∀ x, -1 ≤ s x ∧ s x ≤ 1)
    (anti : ∀ u v, 0 ≤ u → u ≤ v → v ≤ T / 2 → s v ≤ s u)
    (mono : ∀ u v, T / 2 ≤ u → u ≤ v → v ≤ T → s u ≤ s v)
    (lo hi : ℚ) (h : lo ≤ hi) :
    ∃ p, cosI T (hi - lo) (fmodR lo T) (fmodR hi T) (s (fmodR lo T)) (s (fmodR hi T)) = .ok p := by
  obtain ⟨-, dl0, dlT⟩ := fmodR_decomp lo T hT
  obtain ⟨-, dh0, dhT⟩ := fmodR_decomp hi T hT
  have hv := cosVec_eq_scalar (hi - lo) hT dl0 dlT.le dh0 dhT.le
  exact trigI_returns hv (cos_sound_fmodR s T hT per bd anti mono lo hi lo le_rfl h _ hv)

theorem tanI_eq_elem (P w zl zh tl th : ℚ) (h : tl ≤ th) :
    tanI P w zl zh tl th = .ok (if tanInf w zl zh P then none else some (tl, th)) := by
  unfold tanI mkI
  split_ifs <;> rfl

theorem tanI_ok_some {P w zl zh tl th : ℚ} {p : ℚ × ℚ} (h : tanI P w zl zh tl th = .ok (some p)) :
    tanInf w zl zh P = false ∧ p = (tl, th) := by
  unfold tanI at h
  split_ifs at h with hc
  · cases h
  · split at h
    · next q hm =>
      cases h
      exact ⟨eq_false_of_ne_true hc, (mkI_ok hm).1⟩
    · cases h

/-- **tangent encloses**: when the model returns a bounded interval, no point of `[lo,hi]` reduces to
the pole `P/2` and the interval contains `t x` for all `x ∈ [lo,hi]`; `t` is any function with period
`P`, increasing on `[0,P/2)` and on `(P/2,P]`. -/
theorem tan_encloses (t : ℚ → ℚ) (P : ℚ) (hP : 0 < P)
    (per : ∀ (x : ℚ) (k : ℤ), t (x + k * P) = t x)
    (m1 : ∀ u v, 0 ≤ u → u ≤ v → v < P / 2 → t u ≤ t v)
    (m2 : ∀ u v, P / 2 < u → u ≤ v → v ≤ P → t u ≤ t v)
    (lo hi x : ℚ) (h1 : lo ≤ x) (h2 : x ≤ hi) (p : ℚ × ℚ)
    (hp : tanI P (hi - lo) (fmodR lo P) (fmodR hi P) (t (fmodR lo P)) (t (fmodR hi P)) = .ok (some p)) :
    fmodR x P ≠ P / 2 ∧ p.1 ≤ t x ∧ t x ≤ p.2 := by
  obtain ⟨hc, rfl⟩ := tanI_ok_some hp
  exact tan_sound_fmodR t P hP per m1 m2 lo hi x h1 h2 hc

/-- the tangent never trips the constructor's assertion on a proper interval -/
theorem tan_returns (t : ℚ → ℚ) (P : ℚ) (hP : 0 < P)
    (per : ∀ (x : ℚ) (k : ℤ), t (x + k * P) = t x)
    (m1 : ∀ u v, 0 ≤ u → u ≤ v → v < P / 2 → t u ≤ t v)
    (m2 : ∀ u v, P / 2 < u → u ≤ v → v ≤ P → t u ≤ t v)
    (lo hi : ℚ) (h : lo ≤ hi) :
    ∃ r, tanI P (hi - lo) (fmodR lo P) (fmodR hi P) (t (fmodR lo P)) (t (fmodR hi P)) = .ok r := by
  cases hc : tanInf (hi - lo) (fmodR lo P) (fmodR hi P) P with
  | true => exact ⟨none, by unfold tanI; rw [hc, if_pos rfl]⟩
  | false =>
    have hs := tan_sound_fmodR t P hP per m1 m2 lo hi lo le_rfl h hc
    exact ⟨_, tanI_eq_elem _ _ _ _ _ _ (hs.2.1.trans hs.2.2)⟩

/-- array form = scalar form, element by element (sine, cosine): on reduced endpoints the value the
masked assignments of `sin_vector` / `cos_vector` leave in an element is what `sin` / `cos` return -/
theorem sinA_elem_eq_scalar (T w yl yh sl sh : ℚ) (hT : 0 < T) (hyl0 : 0 ≤ yl) (hylT : yl ≤ T) (hyh0 : 0 ≤ yh) (hyhT : yh ≤ T) :
    sinI T w yl yh sl sh = mkI (sinVecEl T w yl yh sl sh).1 (sinVecEl T w yl yh sl sh).2 := by
  unfold sinI trigI sinVecEl
  rw [sinVec_eq_scalar w hT hyl0 hylT hyh0 hyhT]

theorem cosA_elem_eq_scalar (T w yl yh sl sh : ℚ) (hT : 0 < T) (hyl0 : 0 ≤ yl) (hylT : yl ≤ T) (hyh0 : 0 ≤ yh) (hyhT : yh ≤ T) :
    cosI T w yl yh sl sh = mkI (cosVecEl T w yl yh sl sh).1 (cosVecEl T w yl yh sl sh).2 := by
  unfold cosI trigI cosVecEl
  rw [cosVec_eq_scalar w hT hyl0 hylT hyh0 hyhT]

theorem mkA_ok {l r : List (ℚ × ℚ)} (h : mkA l = .ok r) : r = l := by
  unfold mkA at h
  split_ifs at h
  cases h; rfl

theorem sinA_elementwise (T : ℚ) (xs : List TrigArg) (r : List (ℚ × ℚ)) (h : sinA T xs = .ok r) :
    r = xs.map (fun x => sinVecEl T x.w x.yl x.yh x.sl x.sh) := mkA_ok h

theorem cosA_elementwise (T : ℚ) (xs : List TrigArg) (r : List (ℚ × ℚ)) (h : cosA T xs = .ok r) :
    r = xs.map (fun x => cosVecEl T x.w x.yl x.yh x.sl x.sh) := mkA_ok h

/-- tangent: array and scalar forms take the same decision and use the same endpoint values -/
theorem tanA_elementwise (P : ℚ) (xs : List TrigArg) (r : List (Option (ℚ × ℚ))) (h : tanA P xs = .ok r) :
    r = xs.map (fun x => if tanInf x.w x.yl x.yh P then none else some (x.sl, x.sh)) := by
  unfold tanA at h
  simp only at h
  split_ifs at h
  cases h; rfl

/-! ## abs, exp, sqrt, log -/

theorem absR_eq (x : ℚ) : absR x = |x| := by
  unfold absR
  split_ifs with h
  · exact (abs_of_neg h).symm
  · exact (abs_of_nonneg (not_lt.mp h)).symm

theorem end_attained (g : ℚ → ℚ) {lo hi m : ℚ} (h : lo ≤ hi) (hm : m = g lo ∨ m = g hi) :
    ∃ x, lo ≤ x ∧ x ≤ hi ∧ g x = m := by
  rcases hm with rfl | rfl
  · exact ⟨lo, le_rfl, h, rfl⟩
  · exact ⟨hi, h, le_rfl, rfl⟩

/-- `abs` returns exactly `[min |x|, max |x|]` over `x ∈ [lo,hi]` -/
theorem abs_exact (lo hi : ℚ) (h : lo ≤ hi) :
    (absI lo hi).1 ≤ (absI lo hi).2 ∧
    (∀ x, lo ≤ x → x ≤ hi → (absI lo hi).1 ≤ |x| ∧ |x| ≤ (absI lo hi).2) ∧
    (∃ x, lo ≤ x ∧ x ≤ hi ∧ |x| = (absI lo hi).1) ∧
    (∃ x, lo ≤ x ∧ x ≤ hi ∧ |x| = (absI lo hi).2) := by
  unfold absI
  simp only [absR_eq, ge_iff_le]
  have hsound : ∀ x, lo ≤ x → x ≤ hi → (if lo ≤ 0 ∧ 0 ≤ hi then 0 else min |lo| |hi|) ≤ |x| ∧ |x| ≤ max |lo| |hi| := by
    intro x h1 h2
    refine ⟨?_, abs_le_max_abs_abs h1 h2⟩
    split_ifs with hz
    · exact abs_nonneg x
    · rcases not_and_or.mp hz with hz | hz
      · have hlo : 0 < lo := not_le.mp hz
        rw [abs_of_pos hlo, abs_of_pos (hlo.trans_le h1)]
        exact (min_le_left _ _).trans h1
      · have hhi : hi < 0 := not_le.mp hz
        rw [abs_of_neg hhi, abs_of_neg (h2.trans_lt hhi)]
        exact (min_le_right _ _).trans (neg_le_neg h2)
  refine ⟨(hsound lo le_rfl h).1.trans (hsound lo le_rfl h).2, hsound, ?_, end_attained (|·|) h (max_choice _ _)⟩
  split_ifs with hz
  · exact ⟨0, hz.1, hz.2, abs_zero⟩
  · exact end_attained (|·|) h (min_choice _ _)

theorem mono_range {f : ℚ → ℚ} {lo hi : ℚ} (hf : ∀ u v, lo ≤ u → u ≤ v → v ≤ hi → f u ≤ f v) (x : ℚ)
    (h1 : lo ≤ x) (h2 : x ≤ hi) : f lo ≤ f x ∧ f x ≤ f hi :=
  ⟨hf lo x le_rfl h1 h2, hf x hi h1 h2 le_rfl⟩

/-- endpoint evaluation of a function monotone on `[lo,hi]` (exp) is the exact range -/
theorem mono_exact (f : ℚ → ℚ) (lo hi : ℚ) (h : lo ≤ hi)
    (hf : ∀ u v, lo ≤ u → u ≤ v → v ≤ hi → f u ≤ f v) :
    expI (f lo) (f hi) = .ok (f lo, f hi) ∧
    (∀ x, lo ≤ x → x ≤ hi → f lo ≤ f x ∧ f x ≤ f hi) ∧
    (∃ x, lo ≤ x ∧ x ≤ hi ∧ f x = f lo) ∧ (∃ x, lo ≤ x ∧ x ≤ hi ∧ f x = f hi) :=
  ⟨mkI_of_le (hf lo hi le_rfl h le_rfl), mono_range hf, ⟨lo, le_rfl, h, rfl⟩, ⟨hi, h, le_rfl, rfl⟩⟩

/-- sqrt on its domain: exact range of any function monotone on `[lo,hi]`, `0 ≤ lo` -/
theorem sqrt_exact (f : ℚ → ℚ) (lo hi : ℚ) (h0 : 0 ≤ lo) (h : lo ≤ hi)
    (hf : ∀ u v, lo ≤ u → u ≤ v → v ≤ hi → f u ≤ f v) :
    sqrtI lo hi (f lo) (f hi) = .ok (f lo, f hi) ∧
    (∀ x, lo ≤ x → x ≤ hi → f lo ≤ f x ∧ f x ≤ f hi) := by
  refine ⟨?_, mono_range hf⟩
  unfold sqrtI
  rw [if_neg (not_lt.mpr h0), if_neg (not_lt.mpr (h0.trans h))]
  exact mkI_of_le (hf lo hi le_rfl h le_rfl)

/-- an interval reaching below 0 is outside the domain of sqrt: the call raises -/
theorem sqrt_domain (lo hi a b : ℚ) (h : lo < 0) : sqrtI lo hi a b = .error .Assertion := by
  unfold sqrtI; rw [if_pos h]; split_ifs <;> rfl

theorem log_exact (f : ℚ → ℚ) (lo hi : ℚ) (h0 : 0 < lo) (h : lo ≤ hi)
    (hf : ∀ u v, lo ≤ u → u ≤ v → v ≤ hi → f u ≤ f v) :
    logI lo (f lo) (f hi) = .ok (f lo, f hi) ∧
    (∀ x, lo ≤ x → x ≤ hi → f lo ≤ f x ∧ f x ≤ f hi) := by
  refine ⟨?_, mono_range hf⟩
  unfold logI
  rw [if_pos h0]
  exact mkI_of_le (hf lo hi le_rfl h le_rfl)

/-- an interval containing a non-positive number is outside the domain of log: the call raises -/
theorem log_domain (lo a b : ℚ) (h : lo ≤ 0) : logI lo a b = .error .Assertion := by
  unfold logI; rw [if_neg (not_lt.mpr h)]

/-- the array forms raise as soon as one element is outside the domain -/
theorem logA_domain (los a b : List ℚ) (x : ℚ) (hx : x ∈ los) (h : x ≤ 0) : logA los a b = .error .Assertion := by
  unfold logA
  rw [if_neg]
  intro hall
  exact not_lt.mpr h (of_decide_eq_true (List.all_eq_true.mp hall x hx))

/-! ## integer powers -/

theorem even_pow_le_max (n : ℕ) (hev : Even n) (lo hi x : ℚ) (h1 : lo ≤ x) (h2 : x ≤ hi) :
    x ^ n ≤ max (lo ^ n) (hi ^ n) := by
  rw [← hev.pow_abs x, ← hev.pow_abs lo, ← hev.pow_abs hi]
  rcases le_max_iff.mp (abs_le_max_abs_abs h1 h2) with h | h
  · exact le_max_of_le_left (pow_le_pow_left₀ (abs_nonneg x) h n)
  · exact le_max_of_le_right (pow_le_pow_left₀ (abs_nonneg x) h n)

/-- non-negative integer power: the parity logic encloses `x^n` for every `x ∈ [lo,hi]` -/
theorem pow_sound (n : ℕ) (lo hi x : ℚ) (h1 : lo ≤ x) (h2 : x ≤ hi) :
    (powNat n lo hi).1 ≤ x ^ n ∧ x ^ n ≤ (powNat n lo hi).2 := by
  unfold powNat
  dsimp only
  by_cases he : n % 2 = 0
  · have hev : Even n := Nat.even_iff.mpr he
    rw [if_pos he]
    refine ⟨?_, even_pow_le_max n hev lo hi x h1 h2⟩
    split_ifs with h0 hneg
    · exact pow_le_pow_left₀ h0.le h1 n
    · -- `x ≤ hi < 0`: compare `(-hi)^n` and `(-x)^n`
      rw [← hev.neg_pow hi, ← hev.neg_pow x]
      exact pow_le_pow_left₀ (neg_nonneg.mpr hneg.le) (neg_le_neg h2) n
    · exact hev.pow_nonneg x
  · have hm := (Nat.odd_iff.mpr (Nat.mod_two_ne_zero.mp he)).strictMono_pow (R := ℚ) |>.monotone
    rw [if_neg he]
    exact ⟨(min_le_left _ _).trans (hm h1), (hm h2).trans (le_max_right _ _)⟩

/-- the bounds are ordered, so the constructor's assertion never fires for `k ≥ 0` -/
theorem powI_nonneg (k : ℤ) (hk : 0 ≤ k) (lo hi : ℚ) (h : lo ≤ hi) :
    powI k lo hi = .ok (powNat k.natAbs lo hi) := by
  unfold powI
  rw [if_neg (not_lt.mpr hk)]
  have hp := pow_sound k.natAbs lo hi lo le_rfl h
  exact mkI_of_le (hp.1.trans hp.2)

/-- even powers (n ≥ 1) and odd powers return the exact range: both bounds are attained -/
theorem pow_exact (n : ℕ) (hn : n ≠ 0) (lo hi : ℚ) (h : lo ≤ hi) :
    (∃ x, lo ≤ x ∧ x ≤ hi ∧ x ^ n = (powNat n lo hi).1) ∧
    (∃ x, lo ≤ x ∧ x ≤ hi ∧ x ^ n = (powNat n lo hi).2) := by
  unfold powNat
  dsimp only
  have hmax := end_attained (· ^ n) h (max_choice _ _)
  split_ifs with he h0 hneg
  · exact ⟨⟨lo, le_rfl, h, rfl⟩, hmax⟩
  · exact ⟨⟨hi, h, le_rfl, rfl⟩, hmax⟩
  · exact ⟨⟨0, not_lt.mp h0, not_lt.mp hneg, zero_pow hn⟩, hmax⟩
  · exact ⟨end_attained _ h (min_choice _ _), hmax⟩

theorem recipI_sound (a b : ℚ) (hab : a ≤ b) (h0 : ¬ (a ≤ 0 ∧ 0 ≤ b)) :
    recipI a b = .ok (1 / b, 1 / a) ∧ ∀ y, a ≤ y → y ≤ b → 1 / b ≤ 1 / y ∧ 1 / y ≤ 1 / a := by
  have key : ∀ y, a ≤ y → y ≤ b → 1 / b ≤ 1 / y ∧ 1 / y ≤ 1 / a := by
    intro y h1 h2
    rcases lt_or_ge 0 a with h | h
    · exact ⟨one_div_le_one_div_of_le (h.trans_le h1) h2, one_div_le_one_div_of_le h h1⟩
    · have hb : b < 0 := not_le.mp fun hb => h0 ⟨h, hb⟩
      exact ⟨one_div_le_one_div_of_neg_of_le hb h2, one_div_le_one_div_of_neg_of_le (h2.trans_lt hb) h1⟩
  refine ⟨?_, key⟩
  unfold recipI
  rw [if_neg h0]
  exact mkI_of_le ((key a le_rfl hab).1.trans (key a le_rfl hab).2)

/-- negative exponent on an interval not containing 0: the non-negative power of the reciprocal
encloses `1 / x^n` for every `x ∈ [lo,hi]` -/
theorem pow_neg_sound (k : ℤ) (hk : k < 0) (lo hi : ℚ) (h : lo ≤ hi) (h0 : ¬ (lo ≤ 0 ∧ 0 ≤ hi)) :
    ∃ a b, powI k lo hi = .ok (a, b) ∧ ∀ x, lo ≤ x → x ≤ hi → a ≤ 1 / x ^ k.natAbs ∧ 1 / x ^ k.natAbs ≤ b := by
  obtain ⟨hr, hkey⟩ := recipI_sound lo hi h h0
  have hs := pow_sound k.natAbs (1 / hi) (1 / lo)
  have hp := hs (1 / lo) ((hkey lo le_rfl h).1.trans (hkey lo le_rfl h).2) le_rfl
  refine ⟨(powNat k.natAbs (1 / hi) (1 / lo)).1, (powNat k.natAbs (1 / hi) (1 / lo)).2, ?_, ?_⟩
  · unfold powI
    rw [if_pos hk, hr]
    exact mkI_of_le (hp.1.trans hp.2)
  · intro x h1 h2
    rw [← one_div_pow]
    exact hs (1 / x) (hkey x h1 h2).1 (hkey x h1 h2).2

/-- negative exponent with the pole 0 inside the interval: the call raises `ZeroDivisionError` -/
theorem pow_neg_pole_raises (k : ℤ) (hk : k < 0) (lo hi : ℚ) (h0 : lo ≤ 0 ∧ 0 ≤ hi) :
    powI k lo hi = .error .ZeroDivision := by
  unfold powI
  rw [if_pos hk]
  unfold recipI
  rw [if_pos h0]

/-! ## logistic function, tanh -/

theorem div_one_add_anti {E : ℚ → ℚ} (hpos : ∀ x, 0 < E x) (hmono : ∀ u v, u ≤ v → E u ≤ E v) {c : ℚ}
    (hc : 0 ≤ c) {u v : ℚ} (h : u ≤ v) : c / (1 + E v) ≤ c / (1 + E u) :=
  div_le_div_of_nonneg_left hc (add_pos one_pos (hpos u)) (add_le_add_right (hmono u v h) 1)

/-- the logistic function `1/(1+exp(-x))`, for ANY positive monotone `E` in place of `exp`:
no assertion fires and the result is the exact range (every variable occurs once) -/
theorem sigmoid_exact (E : ℚ → ℚ) (hpos : ∀ x, 0 < E x) (hmono : ∀ u v, u ≤ v → E u ≤ E v)
    (lo hi : ℚ) (h : lo ≤ hi) :
    sigmoidI (E (-hi)) (E (-lo)) = .ok (1 / (1 + E (-lo)), 1 / (1 + E (-hi))) ∧
    ∀ x, lo ≤ x → x ≤ hi →
      1 / (1 + E (-lo)) ≤ 1 / (1 + E (-x)) ∧ 1 / (1 + E (-x)) ≤ 1 / (1 + E (-hi)) := by
  have anti := @div_one_add_anti E hpos hmono 1 zero_le_one
  refine ⟨?_, fun x h1 h2 => ⟨anti (neg_le_neg h1), anti (neg_le_neg h2)⟩⟩
  have he : E (-hi) ≤ E (-lo) := hmono _ _ (neg_le_neg h)
  have hd : 1 + E (-hi) ≤ 1 + E (-lo) := add_le_add_right he 1
  unfold sigmoidI
  rw [mkI_of_le he]
  dsimp only
  rw [mkI_of_le hd]
  exact (recipI_sound _ _ hd fun hc => not_le.mpr (add_pos one_pos (hpos (-hi))) hc.1).1

theorem tanh_form_mono {E : ℚ → ℚ} (hpos : ∀ x, 0 < E x) (hmono : ∀ u v, u ≤ v → E u ≤ E v) {u v : ℚ} (h : u ≤ v) :
    1 - 2 / (1 + E (2 * u)) ≤ 1 - 2 / (1 + E (2 * v)) :=
  sub_le_sub_left (div_one_add_anti hpos hmono zero_le_two (mul_le_mul_of_nonneg_left h zero_le_two)) 1

/-- `methods.tanh` = `1 - 2/(1+exp(2x))`, for any positive monotone `E`: exact range -/
theorem tanh_exact (E : ℚ → ℚ) (hpos : ∀ x, 0 < E x) (hmono : ∀ u v, u ≤ v → E u ≤ E v)
    (lo hi : ℚ) (h : lo ≤ hi) :
    tanhI (E (2 * lo)) (E (2 * hi)) = .ok (1 - 2 / (1 + E (2 * lo)), 1 - 2 / (1 + E (2 * hi))) ∧
    ∀ x, lo ≤ x → x ≤ hi →
      1 - 2 / (1 + E (2 * lo)) ≤ 1 - 2 / (1 + E (2 * x)) ∧ 1 - 2 / (1 + E (2 * x)) ≤ 1 - 2 / (1 + E (2 * hi)) := by
  refine ⟨?_, fun x h1 h2 => ⟨tanh_form_mono hpos hmono h1, tanh_form_mono hpos hmono h2⟩⟩
  have h2 : 2 * lo ≤ 2 * hi := mul_le_mul_of_nonneg_left h zero_le_two
  have he : E (2 * lo) ≤ E (2 * hi) := hmono _ _ h2
  unfold tanhI
  rw [mkI_of_le he]
  dsimp only
  rw [mkI_of_le (add_le_add_right he 1)]
  dsimp only
  rw [if_neg fun hc => not_le.mpr (add_pos one_pos (hpos (2 * lo))) hc.1,
    mkI_of_le (div_one_add_anti hpos hmono zero_le_two h2)]
  exact mkI_of_le (tanh_form_mono hpos hmono h)

/-! ## non-vacuity: the hypotheses are satisfiable, and concrete evaluations of the model take the
non-trivial branches (wrapped endpoints, poles, negative powers, domain errors) -/

example : ∃ (s : ℚ → ℚ) (T : ℚ), 0 < T ∧ (∀ (x : ℚ) (k : ℤ), s (x + k * T) = s x) ∧ (∀ x, -1 ≤ s x ∧ s x ≤ 1) ∧
    (∀ u v, 0 ≤ u → u ≤ v → v ≤ T / 4 → s u ≤ s v) ∧ (∀ u v, T / 4 ≤ u → u ≤ v → v ≤ 3 * (T / 4) → s v ≤ s u) ∧
    (∀ u v, 3 * (T / 4) ≤ u → u ≤ v → v ≤ T → s u ≤ s v) ∧
    (∀ u v, 0 ≤ u → u ≤ v → v ≤ T / 2 → s v ≤ s u) ∧ (∀ u v, T / 2 ≤ u → u ≤ v → v ≤ T → s u ≤ s v) :=
  ⟨fun _ => 0, 8, by norm_num, fun _ _ => rfl, fun _ => by norm_num, fun _ _ _ _ _ => le_refl _,
    fun _ _ _ _ _ => le_refl _, fun _ _ _ _ _ => le_refl _, fun _ _ _ _ _ => le_refl _, fun _ _ _ _ _ => le_refl _⟩

-- period 8 (quarter 2): [-1,1] wraps through 0 -> [s yl, s yh]; [1,3] contains the maximum; [7,9] for cos
example : sinShape 2 (fmodR (-1) 8) (fmodR 1 8) 8 = some .lh := by decide +kernel
example : sinShape 2 (fmodR 1 8) (fmodR 3 8) 8 = some .minTo1 := by decide +kernel
example : sinShape 7 (fmodR 1 8) (fmodR 8 8) 8 = some .full := by decide +kernel
example : sinVecShape 2 (fmodR 2 8) (fmodR 6 8) 8 = .hl := by decide +kernel
example : cosShape 2 (fmodR 7 8) (fmodR 9 8) 8 = some .minTo1 := by decide +kernel
example : cosShape 8 (fmodR (-16) 8) (fmodR (-8) 8) 8 = some .full := by decide +kernel
example : cosVecShape 8 (fmodR (-16) 8) (fmodR (-8) 8) 8 = .full := by decide +kernel
example : tanInf 4 (fmodR 0 4) (fmodR 4 4) 4 = true := by decide +kernel
example : tanInf 1 (fmodR 1 4) (fmodR (5/2) 4) 4 = true := by decide +kernel
example : tanInf 1 (fmodR 3 4) (fmodR (9/2) 4) 4 = false := by decide +kernel
example : absI (-2) 1 = (0, 2) := by decide +kernel
example : powI (-2) 1 2 = .ok (1/4, 1) := by decide +kernel
example : powI (-1) (-1) 2 = .error .ZeroDivision := by decide +kernel
example : powI 2 (-1) 2 = .ok (0, 4) := by decide +kernel
example : powI 0 (-1) 2 = .ok (0, 1) := by decide +kernel      -- sound, not tight (n = 0 is excluded from pow_exact)
example : powA .int (-1) [1, -1] [2, 2] = .error .ZeroDivision := by decide +kernel
example : powA .int (-2) [1, -2] [2, -1] = .ok [(1/4, 1), (1/4, 1)] := by decide +kernel
example : logI 0 0 1 = .error .Assertion := by decide +kernel
example : sqrtI (-1) 4 0 2 = .error .Assertion := by decide +kernel

example : ∃ E : ℚ → ℚ, (∀ x, 0 < E x) ∧ (∀ u v, u ≤ v → E u ≤ E v) ∧ E (-1) < E 1 :=
  ⟨fun x => max x 0 + 1, fun x => add_pos_of_nonneg_of_pos (le_max_right x 0) one_pos,
    fun u v h => add_le_add_left (max_le_max_right 0 h) 1, by norm_num⟩

example : ∃ (t : ℚ → ℚ) (P : ℚ), 0 < P ∧ (∀ (x : ℚ) (k : ℤ), t (x + k * P) = t x) ∧
    (∀ u v, 0 ≤ u → u ≤ v → v < P / 2 → t u ≤ t v) ∧ (∀ u v, P / 2 < u → u ≤ v → v ≤ P → t u ≤ t v) :=
  ⟨fun _ => 0, 4, by norm_num, fun _ _ => rfl, fun _ _ _ _ _ => le_refl _, fun _ _ _ _ _ => le_refl _⟩

/-! ## overflow of exp: the extended forms the driver executes -/

theorem mkI_of_not_le {a b : ℚ} (h : ¬a ≤ b) : mkI a b = .error .Assertion := if_neg h

theorem mkIE_fin_of_le {a b : ℚ} (h : a ≤ b) : mkIE (.fin a) (.fin b) = .ok (.fin a, .fin b) :=
  if_pos (decide_eq_true h)

theorem mkIE_fin_of_not_le {a b : ℚ} (h : ¬a ≤ b) : mkIE (.fin a) (.fin b) = .error .Assertion :=
  if_neg (ne_true_of_eq_false (decide_eq_false h))

theorem mkIE_pinf (a : EV) : mkIE a .pinf = .ok (a, .pinf) := by
  cases a <;> rfl

/-- on finite values the extended constructor is the ordinary one -/
theorem expIE_fin (a b : ℚ) :
    expIE (.fin a) (.fin b) = if a ≤ b then .ok (.fin a, .fin b) else .error .Assertion := by
  unfold expIE
  split_ifs with h
  · exact mkIE_fin_of_le h
  · exact mkIE_fin_of_not_le h

/-- `exp(hi)` overflowed: `[exp lo, inf]` is returned, no assertion fires -/
theorem expIE_overflow (a : EV) : expIE a .pinf = .ok (a, .pinf) := mkIE_pinf a

/-- on finite values the extended logistic function is `sigmoidI` (so `sigmoid_exact` applies) -/
theorem sigmoidIE_fin (a b : ℚ) : sigmoidIE (.fin a) (.fin b) = sigmoidI a b := by
  unfold sigmoidIE sigmoidI
  by_cases h : a ≤ b
  · have h1 : 1 + a ≤ 1 + b := add_le_add_right h 1
    rw [mkIE_fin_of_le h, mkI_of_le h]
    dsimp only [EV.add1]
    rw [mkIE_fin_of_le h1, mkI_of_le h1]
    simp only [recipI, EV.le0, EV.ge0, EV.rdiv, Bool.and_eq_true, decide_eq_true_eq]
  · rw [mkIE_fin_of_not_le h, mkI_of_not_le h]

theorem tanhIE_fin (a b : ℚ) : tanhIE (.fin a) (.fin b) = tanhI a b := by
  unfold tanhIE tanhI
  by_cases h : a ≤ b
  · have h1 : 1 + a ≤ 1 + b := add_le_add_right h 1
    rw [mkIE_fin_of_le h, mkI_of_le h]
    dsimp only [EV.add1]
    rw [mkIE_fin_of_le h1, mkI_of_le h1]
    simp only [EV.le0, EV.ge0, EV.rdiv, Bool.and_eq_true, decide_eq_true_eq]
  · rw [mkIE_fin_of_not_le h, mkI_of_not_le h]

/-- `exp(-lo)` overflowed to `inf` (lo < −709.78): the logistic function returns `[0, 1/(1+E(-hi))]`,
which still encloses `1/(1+E(-x))` for every `x ≤ hi`, for any positive monotone `E` -/
theorem sigmoid_overflow_sound (E : ℚ → ℚ) (hpos : ∀ x, 0 < E x) (hmono : ∀ u v, u ≤ v → E u ≤ E v) (hi : ℚ) :
    sigmoidIE (.fin (E (-hi))) .pinf = .ok (0, 1 / (1 + E (-hi))) ∧
    ∀ x, x ≤ hi → 0 ≤ 1 / (1 + E (-x)) ∧ 1 / (1 + E (-x)) ≤ 1 / (1 + E (-hi)) := by
  have hp : ∀ y, 0 < 1 + E y := fun y => add_pos one_pos (hpos y)
  refine ⟨?_, fun x hx => ⟨(one_div_pos.mpr (hp _)).le, div_one_add_anti hpos hmono zero_le_one (neg_le_neg hx)⟩⟩
  unfold sigmoidIE
  rw [mkIE_pinf]
  dsimp only [EV.add1]
  rw [mkIE_pinf]
  simp only [EV.le0, EV.ge0, EV.rdiv, Bool.and_true, decide_eq_true_eq]
  rw [if_neg (not_le.mpr (hp _))]
  exact mkI_of_le (one_div_pos.mpr (hp _)).le

/-- `exp(2 hi)` overflowed: `tanh` returns `[1 − 2/(1+E(2 lo)), 1]`, which encloses `1 − 2/(1+E(2x))`
for every `x ≥ lo` -/
theorem tanh_overflow_sound (E : ℚ → ℚ) (hpos : ∀ x, 0 < E x) (hmono : ∀ u v, u ≤ v → E u ≤ E v) (lo : ℚ) :
    tanhIE (.fin (E (2 * lo))) .pinf = .ok (1 - 2 / (1 + E (2 * lo)), 1) ∧
    ∀ x, lo ≤ x → 1 - 2 / (1 + E (2 * lo)) ≤ 1 - 2 / (1 + E (2 * x)) ∧ 1 - 2 / (1 + E (2 * x)) ≤ 1 := by
  have hp : ∀ y, 0 ≤ 2 / (1 + E y) := fun y => (div_pos two_pos (add_pos one_pos (hpos y))).le
  refine ⟨?_, fun x hx => ⟨tanh_form_mono hpos hmono hx, sub_le_self 1 (hp _)⟩⟩
  unfold tanhIE
  rw [mkIE_pinf]
  dsimp only [EV.add1]
  rw [mkIE_pinf]
  simp only [EV.le0, EV.ge0, EV.rdiv, Bool.and_true, decide_eq_true_eq]
  rw [if_neg (not_le.mpr (add_pos one_pos (hpos _))), mkI_of_le (hp _)]
  dsimp only
  rw [sub_zero]
  exact mkI_of_le (sub_le_self 1 (hp _))

example : sigmoidIE (.fin 0) .pinf = .ok (0, 1) := by decide +kernel
example : tanhIE (.fin 0) .pinf = .ok (-1, 1) := by decide +kernel
example : tanhIE .pinf .pinf = .ok (1, 1) := by decide +kernel
example : expIE .pinf (.fin 1) = .error .Assertion := by decide +kernel

/-! ## `activation.tanh` (single-occurrence form since `fa5d3fa`) -/

/-- the operations of `activation.tanh` are those of `methods.tanh` -/
theorem atanhIE_eq_tanhIE (a b : EV) : atanhIE a b = tanhIE a b := rfl

/-- `activation.tanh`, for any positive monotone `E` in place of `exp`: no error, and the result is the
exact range of `1 − 2/(1+E(2x))` over `[lo,hi]` (enclosure, both bounds attained at the endpoints) -/
theorem atanh_sound (E : ℚ → ℚ) (hpos : ∀ x, 0 < E x) (hmono : ∀ u v, u ≤ v → E u ≤ E v)
    (lo hi : ℚ) (h : lo ≤ hi) :
    atanhIE (.fin (E (2 * lo))) (.fin (E (2 * hi))) = .ok (1 - 2 / (1 + E (2 * lo)), 1 - 2 / (1 + E (2 * hi))) ∧
    ∀ x, lo ≤ x → x ≤ hi →
      1 - 2 / (1 + E (2 * lo)) ≤ 1 - 2 / (1 + E (2 * x)) ∧ 1 - 2 / (1 + E (2 * x)) ≤ 1 - 2 / (1 + E (2 * hi)) := by
  rw [atanhIE_eq_tanhIE, tanhIE_fin]
  exact tanh_exact E hpos hmono lo hi h

/-- `exp(2 hi)` overflowed: `[1 − 2/(1+E(2 lo)), 1]` still encloses -/
theorem atanh_overflow_sound (E : ℚ → ℚ) (hpos : ∀ x, 0 < E x) (hmono : ∀ u v, u ≤ v → E u ≤ E v) (lo : ℚ) :
    atanhIE (.fin (E (2 * lo))) .pinf = .ok (1 - 2 / (1 + E (2 * lo)), 1) ∧
    ∀ x, lo ≤ x → 1 - 2 / (1 + E (2 * lo)) ≤ 1 - 2 / (1 + E (2 * x)) ∧ 1 - 2 / (1 + E (2 * x)) ≤ 1 := by
  rw [atanhIE_eq_tanhIE]
  exact tanh_overflow_sound E hpos hmono lo

/-- both endpoints beyond the overflow threshold (the input that raised before `fa5d3fa`): `[1, 1]` -/
example : atanhIE .pinf .pinf = .ok (1, 1) := by decide +kernel

end Pun.Elem
