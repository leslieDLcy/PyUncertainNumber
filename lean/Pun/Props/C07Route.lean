import Pun.Props.C07
import Pun.Lemmas.HierScale
import Pun.Lemmas.HierTotal
/-!
# C07 — the mixed expression equals the converted-first expression, every cell of the dispatch graph

`route_agrees`: for every pair of valid operands of which at least one is p-box-like (p-box,
precise distribution, DS structure), every operation, every dependency code and any number of steps:
whenever the expression with every operand converted first answers `z`, the mixed expression (numbers
through `pbox_number_ops`, intervals negated / inverted by interval arithmetic first, reflected
operators with the un-exchanged dependency) answers the same `z`.

`spec_total`: the converted-first expression answers a well-formed p-box — always for `+`, `-` and under
p / o / i; under Frechet for `×`, `÷` when no converted operand straddles zero or one operand is a number.
`route_partial` combines the two; what it leaves of `C07RouteStatement` is that the Frechet product of
converted operands ANSWERS when an operand straddles zero and none is a number (naive ∩ Balch is never empty:
`binop_f_total` of `Props/C02.lean`, not used here) — agreement holds there as well.
-/
namespace Pun.Hier
open Pun Pun.PBox

/-! ## ★ every cell -/

/-- divisor numbers / intervals the property covers (no zero inside); a p-box-like divisor needs no side
condition for the AGREEMENT (if the converted-first quotient answers, so does the mixed one) -/
def DivisorLowOk (o : Op) : Opd → Prop
  | .num c => o = .div → c ≠ 0
  | .ivl a b => o = .div → (0 < a ∨ b < 0)
  | _ => True

/-- **C07, dispatch part — agreement, every cell.**  For any number of steps, every dependency code, every
operation and every pair of valid operands of which at least one is p-box-like (divisor numbers /
intervals without zero): whenever the expression with every operand converted first answers `z`, the mixed
expression answers the same `z`. -/
theorem route_agrees' (n : Nat) (hn : 0 < n) (d : Dep) (hd : d ≠ .unknown) (o : Op) (l r : Opd)
    (hvl : ValidOpd n l) (hvr : ValidOpd n r) (hh : isHigh l = true ∨ isHigh r = true) (hdiv : DivisorLowOk o r)
    (z : PB) (h : spec n d o l r = .ok z) : evalOp n d o l r = .ok (.pbox z) := by
  cases hl : isHigh l with
  | true =>
    cases r with
    | num c =>
      obtain ⟨z', h1, h2⟩ := fwd_num_agrees n hn d hd o l hl hvl c hdiv
      rw [h1] at h; injection h with e; subst e; exact h2
    | ivl a b => exact fwd_agrees n hn d o l (.ivl a b) hl ⟨hvr, hdiv⟩ z h
    | pbox p => exact fwd_agrees n hn d o l (.pbox p) hl trivial z h
    | dist q => exact fwd_agrees n hn d o l (.dist q) hl trivial z h
    | dss p => exact fwd_agrees n hn d o l (.dss p) hl trivial z h
  | false =>
    have hr : isHigh r = true := by
      rcases hh with h' | h'
      · rw [hl] at h'; cases h'
      · exact h'
    exact refl_agrees n hn d hd o l r hl hvl hr hvr z h

theorem divisorLow_of (o : Op) (r : Opd) (h : DivisorOk o r) : DivisorLowOk o r := by
  cases r with
  | num c => exact h
  | ivl a b => exact h
  | pbox p => trivial
  | dist q => trivial
  | dss p => trivial

theorem route_agrees (n : Nat) (hn : 0 < n) (d : Dep) (hd : d ≠ .unknown) (o : Op) (l r : Opd)
    (hvl : ValidOpd n l) (hvr : ValidOpd n r) (hh : isHigh l = true ∨ isHigh r = true) (hdiv : DivisorOk o r)
    (z : PB) (h : spec n d o l r = .ok z) : evalOp n d o l r = .ok (.pbox z) :=
  route_agrees' n hn d hd o l r hvl hvr hh (divisorLow_of o r hdiv) z h

/-! ## when the converted-first expression answers -/

def isNum : Opd → Bool
  | .num _ => true | _ => false

theorem sameSign_ofIvl (n : Nat) (a b : Rat) (hab : a ≤ b) (h0 : 0 < a ∨ b < 0) : SameSign (ofIvl n a b) := by
  have hm : ∀ (c v : Rat), v ∈ List.replicate n c → v = c := fun c v h => List.eq_of_mem_replicate h
  rcases h0 with h | h
  · exact Or.inl ⟨fun v hv => hm a v hv ▸ h, fun v hv => hm b v hv ▸ h.trans_le hab⟩
  · exact Or.inr ⟨fun v hv => hm a v hv ▸ hab.trans_lt h, fun v hv => hm b v hv ▸ h⟩

theorem convert_valid (n : Nat) (hn : 0 < n) (l : Opd) (hv : ValidOpd n l) :
    ∃ X, convert n l = .ok X ∧ WF n X ∧ (isNum l = true → ∃ c, X = ofIvl n c c) ∧
      (DivisorOk .div l → SameSign X) := by
  cases l with
  | num c =>
    exact ⟨_, ivlToPbox_eq n c c (le_refl c), wf_ofIvl n c c (le_refl c), fun _ => ⟨c, rfl⟩,
      fun h => sameSign_ofIvl n c c (le_refl c) (lt_or_gt_of_ne (h rfl)).symm⟩
  | ivl a b =>
    exact ⟨_, ivlToPbox_eq n a b hv, wf_ofIvl n a b hv, fun h => Bool.noConfusion h, fun h => sameSign_ofIvl n a b hv (h rfl)⟩
  | pbox p => exact ⟨p, rfl, hv, fun h => Bool.noConfusion h, fun h => sameSign_of n p hv (h rfl)⟩
  | dist q =>
    obtain ⟨h1, h2⟩ := hv
    subst h1
    exact ⟨ofDist q, rfl, wf_ofDist q h2, fun h => Bool.noConfusion h, fun h => sameSign_of _ _ (wf_ofDist q h2) (h rfl)⟩
  | dss p => exact ⟨p, rfl, hv, fun h => Bool.noConfusion h, fun h => sameSign_of n p hv (h rfl)⟩

/-- **the converted-first expression answers** (with a well-formed p-box): always for `+`, `-` and under perfect /
opposite / independent dependence; under Frechet for `×`, `÷` when neither converted operand straddles zero
or one operand is a Python number -/
theorem spec_total (n : Nat) (hn : 0 < n) (d : Dep) (hd : d ≠ .unknown) (o : Op) (l r : Opd)
    (hvl : ValidOpd n l) (hvr : ValidOpd n r) (hdiv : DivisorOk o r)
    (hf : d = .f → (o = .mul ∨ o = .div) →
      (∀ X Y, convert n l = .ok X → convert n r = .ok Y → straddlesZero X = false ∧ straddlesZero Y = false) ∨
      isNum l = true ∨ isNum r = true) :
    ∃ z, spec n d o l r = .ok z ∧ WF n z := by
  obtain ⟨X, hX, wX, nX, -⟩ := convert_valid n hn l hvl
  obtain ⟨Y, hY, wY, nY, sY⟩ := convert_valid n hn r hvr
  simp only [spec, hX, hY, ok_bind]
  apply binop_total n hn o d hd X Y wX wY
  · intro ho; subst ho; exact sY hdiv
  · intro h1 h2
    rcases hf h1 h2 with h | h | h
    · exact Or.inl (h X Y hX hY)
    · exact Or.inr (Or.inl (nX h))
    · exact Or.inr (Or.inr (nY h))

/-- **C07, dispatch part**: under the conditions of `spec_total` the converted-first expression answers a
well-formed p-box and the mixed expression returns exactly that p-box.  What remains of `C07RouteStatement`:
that the Frechet product / quotient of converted operands answers when an operand straddles zero and neither
is a number (non-emptiness of naive ∩ Balch: `binop_f_total` of `Props/C02.lean`, not used here); the
AGREEMENT (`route_agrees`) holds there too. -/
theorem route_partial (n : Nat) (hn : 0 < n) (d : Dep) (hd : d ≠ .unknown) (o : Op) (l r : Opd)
    (hvl : ValidOpd n l) (hvr : ValidOpd n r) (hh : isHigh l = true ∨ isHigh r = true) (hdiv : DivisorOk o r)
    (hf : d = .f → (o = .mul ∨ o = .div) →
      (∀ X Y, convert n l = .ok X → convert n r = .ok Y → straddlesZero X = false ∧ straddlesZero Y = false) ∨
      isNum l = true ∨ isNum r = true) :
    ∃ z, spec n d o l r = .ok z ∧ evalOp n d o l r = .ok (.pbox z) ∧ WF n z := by
  obtain ⟨z, hz, wz⟩ := spec_total n hn d hd o l r hvl hvr hdiv hf
  exact ⟨z, hz, route_agrees n hn d hd o l r hvl hvr hh hdiv z hz, wz⟩

/-- non-vacuity: a zero-straddling distribution times a negative number under Frechet (the number route against
naive ∩ Balch), and an interval divided by a DS structure under opposite dependence -/
example : ∃ z, spec 3 .f .mul (.dist [-1, 0, 2]) (.num (-3)) = .ok z ∧
    evalOp 3 .f .mul (.dist [-1, 0, 2]) (.num (-3)) = .ok (.pbox z) ∧ WF 3 z :=
  route_partial 3 (by decide) .f (by decide) .mul _ _ ⟨rfl, by decide⟩ trivial (Or.inl rfl)
    (fun h => by cases h) (fun _ _ => Or.inr (Or.inr rfl))

example : ∃ z, spec 2 .o .div (.ivl (-1) 2) (.dss ⟨[1, 2], [3, 4]⟩) = .ok z ∧
    evalOp 2 .o .div (.ivl (-1) 2) (.dss ⟨[1, 2], [3, 4]⟩) = .ok (.pbox z) ∧ WF 2 z :=
  route_partial 2 (by decide) .o (by decide) .div _ _ (by show (-1 : Rat) ≤ 2; norm_num)
    ⟨rfl, rfl, by decide, by decide, by repeat constructor⟩ (Or.inr rfl)
    (fun _ => Or.inl (by intro v hv; simp at hv; rcases hv with h | h <;> rw [h] <;> norm_num))
    (fun h => by cases h)

end Pun.Hier
