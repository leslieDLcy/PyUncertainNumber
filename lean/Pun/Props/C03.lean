import Pun.Lemmas.PBoxFrechet
import Pun.Lemmas.PBoxFrechet2
import Pun.Lemmas.PBoxRecip
import Pun.Props.C01
import Mathlib.Tactic.Ring
/-!
# C03 — perfect / opposite / independent arithmetic match their random-set meaning

* `focal_mul_exact`, `focal_add_exact`, `focal_div_exact_pos`: the four-corner min/max used for every
  focal pair is the exact interval combination (sound for every point selection, endpoints attained);
* `perfectOp_perm_sorted`, `oppositeOp_perm_sorted`: the returned bounds are the sorted lower /
  upper endpoints of the paired focal combinations (pairing `k ↦ k`, resp. `k ↦ n-1-k`);
* `perfect_add_steps`, `perfect_mul_steps_pos`: for the sum (any operands) and the product
  (non-negative operands) under perfect dependence the unsorted arrays are already monotone, so step
  `k` of the result IS `X_k + Y_k` / `X_k · Y_k`; `add_p_steps`, `mul_p_steps_pos` say so for the public
  methods (through the constructor); the two products and `add_p_steps` are instances of `perfect_mono_steps`
  (any operation monotone in both arguments);
* `opposite_add_spec`, `add_o_spec`: under opposite dependence the sum is the sorted endpoints of
  `X_k + Y_{n-1-k}`;
* **`sub_mirror_p`, `sub_mirror_o`** (public level, through `__neg__` and the constructor):
  `X.sub(Y,'p')` returns the sorted endpoints of the focal differences `X_k − Y_k`, and
  `X.sub(Y,'o')` returns step by step `X_k − Y_{n-1-k}`;
* **`div_mirror_p`, `div_mirror_o`, `div_mirror_pos`** (public level, through `reciprocal`,
  `1 * ·` and the constructor; any zero-free divisor, in particular a positive one): `X.div(Y,'p')`
  returns the sorted endpoints of the focal quotients `X_k / Y_k`, `X.div(Y,'o')` those of
  `X_k / Y_{n-1-k}`;
* `condense_index`, `condense_block` (in `Pun.Lemmas.PBoxMk`): condensing the `n²` sorted
  endpoints of the independent rule takes entry `k(n+1)`, which lies in the `k`-th block of `n` —
  "within one probability step"; `mk_indep_ok` (`Pun.Lemmas.PBoxCorner`) says the constructor does exactly that.
Missing (tie + oracle only): `perfect_mul_steps` for operands that are not both non-negative (the
product then re-orders the steps; only `perfectOp_perm_sorted` holds); the `sub`/`div` mirroring under
`'i'` is trivial (`swapPO .i = .i`) and not stated; a divisor with a zero bound raises
(`div_zero_bound_raises` in `Props/C02.lean`), a zero-straddling divisor without a zero bound is not
covered by `div_mirror_*` (its reciprocal is not a p-box).
-/
namespace Pun.PBox
open Pun

/-- product of two focal intervals: the corner min/max encloses every pointwise product and both
are attained at corners -/
theorem focal_mul_exact (a b c d : Rat) (hab : a ≤ b) (hcd : c ≤ d) :
    (∀ x y, a ≤ x → x ≤ b → c ≤ y → y ≤ d →
      min4 (a*c) (a*d) (b*c) (b*d) ≤ x*y ∧ x*y ≤ max4 (a*c) (a*d) (b*c) (b*d)) ∧
    (∃ x y, a ≤ x ∧ x ≤ b ∧ c ≤ y ∧ y ≤ d ∧ x*y = min4 (a*c) (a*d) (b*c) (b*d)) ∧
    (∃ x y, a ≤ x ∧ x ≤ b ∧ c ≤ y ∧ y ≤ d ∧ x*y = max4 (a*c) (a*d) (b*c) (b*d)) := by
  rw [min4_eq_arith, max4_eq_arith]
  obtain ⟨l, h, htab, hs, hlo, hhi⟩ := Arith.mul_exact_image a b c d hab hcd
  rw [Arith.mulTable_exact a b c d hab hcd] at htab
  have e := Option.some.inj htab
  have e1 : Arith.min4 (a*c) (a*d) (b*c) (b*d) = l := congrArg Prod.fst e
  have e2 : Arith.max4 (a*c) (a*d) (b*c) (b*d) = h := congrArg Prod.snd e
  rw [e1, e2]
  exact ⟨hs, hlo, hhi⟩

/-- sum of two focal intervals: the corner min/max are `a+c` and `b+d` -/
theorem focal_add_exact (a b c d : Rat) (hab : a ≤ b) (hcd : c ≤ d) :
    min4 (a+c) (a+d) (b+c) (b+d) = a + c ∧ max4 (a+c) (a+d) (b+c) (b+d) = b + d := by
  unfold min4 max4
  constructor
  · rw [min_eq_left (by linarith : a + c ≤ a + d), min_eq_left (by linarith : a + c ≤ b + c),
      min_eq_left (by linarith : a + c ≤ b + d)]
  · exact max_eq_right (max_le (max_le (by linarith) (by linarith)) (by linarith))

/-- perfect dependence: the bounds are the sorted lower / upper endpoints of the focal pairs `(X_k, Y_k)` -/
theorem perfectOp_perm_sorted (op : Rat → Rat → Rat) (X Y : PB) :
    let fp := cornerPair op X.left X.right Y.left Y.right
    (perfectOp op X Y).1.Perm fp.1 ∧ (perfectOp op X Y).2.Perm fp.2 ∧
    (perfectOp op X Y).1.Pairwise (· ≤ ·) ∧ (perfectOp op X Y).2.Pairwise (· ≤ ·) :=
  ⟨sortR_perm _, sortR_perm _, sortR_sorted _, sortR_sorted _⟩

/-- opposite dependence: the same with the pairing `(X_k, Y_{n-1-k})` -/
theorem oppositeOp_perm_sorted (op : Rat → Rat → Rat) (X Y : PB) :
    let fp := cornerPair op X.left X.right Y.left.reverse Y.right.reverse
    (oppositeOp op X Y).1.Perm fp.1 ∧ (oppositeOp op X Y).2.Perm fp.2 ∧
    (oppositeOp op X Y).1.Pairwise (· ≤ ·) ∧ (oppositeOp op X Y).2.Pairwise (· ≤ ·) :=
  ⟨sortR_perm _, sortR_perm _, sortR_sorted _, sortR_sorted _⟩

/-- both bounds returned by the independent rule are sorted -/
theorem independentOp_sorted (op : Rat → Rat → Rat) (X Y : PB) :
    (independentOp op X Y).1.Pairwise (· ≤ ·) ∧ (independentOp op X Y).2.Pairwise (· ≤ ·) :=
  ⟨sortR_sorted _, sortR_sorted _⟩

/-- **perfect dependence, sum**: step `k` of the result is exactly `X_k + Y_k` (no re-ordering) -/
theorem perfect_add_steps (X Y : PB) (hX : List.Forall₂ (· ≤ ·) X.left X.right)
    (hY : List.Forall₂ (· ≤ ·) Y.left Y.right)
    (sxl : X.left.Pairwise (· ≤ ·)) (sxr : X.right.Pairwise (· ≤ ·))
    (syl : Y.left.Pairwise (· ≤ ·)) (syr : Y.right.Pairwise (· ≤ ·)) :
    perfectOp (· + ·) X Y =
      (List.zipWith (· + ·) X.left Y.left, List.zipWith (· + ·) X.right Y.right) := by
  unfold perfectOp
  rw [cornerPair_mono (· + ·) add_mono2 _ _ _ _ hX hY]
  simp only
  rw [sortR_of_sorted _ (zipWith_sorted (· + ·) add_mono2 _ _ sxl syl),
    sortR_of_sorted _ (zipWith_sorted (· + ·) add_mono2 _ _ sxr syr)]

example : perfectOp (· + ·) ⟨[1, 2], [2, 4]⟩ ⟨[0, 5], [1, 6]⟩ = ([1, 7], [3, 10]) := by
  rw [perfect_add_steps] <;> decide +kernel

/-! ## perfect / opposite dependence at the level of the public methods -/

/-- **perfect dependence, monotone operation**: the unsorted arrays are already sorted, so step `k`
of the result is `op X_k Y_k`, and the constructor accepts it -/
theorem perfect_mono_steps (op : Rat → Rat → Rat)
    (hop : ∀ p p' q q', p ≤ p' → q ≤ q' → op p q ≤ op p' q') (n : Nat) (X Y : PB)
    (hX : WF n X) (hY : WF n Y) :
    perfectOp op X Y = (List.zipWith op X.left Y.left, List.zipWith op X.right Y.right) ∧
    mk n false (List.zipWith op X.left Y.left) (List.zipWith op X.right Y.right) =
      .ok ⟨List.zipWith op X.left Y.left, List.zipWith op X.right Y.right⟩ := by
  obtain ⟨e1, e2, -⟩ := perfectOp_mono op hop n X Y hX hY
  simp only [perfF] at e1 e2
  rw [sortR_of_sorted _ (zipWith_sorted op hop _ _ hX.lsorted hY.lsorted),
    sortR_of_sorted _ (zipWith_sorted op hop _ _ hX.rsorted hY.rsorted)] at e1 e2
  exact ⟨e1, e2⟩

/-- **`X.add(Y,'p')`**: step `k` of the result is exactly `X_k + Y_k` -/
theorem add_p_steps (n : Nat) (X Y : PB) (hX : WF n X) (hY : WF n Y) :
    binop n .add .p X Y =
      .ok ⟨List.zipWith (· + ·) X.left Y.left, List.zipWith (· + ·) X.right Y.right⟩ := by
  obtain ⟨e1, e2⟩ := perfect_mono_steps (· + ·) add_mono2 n X Y hX hY
  simp only [binop, add, e1, e2]

/-- **opposite dependence, sum**: the bounds are the sorted endpoints of `X_k + Y_{n-1-k}` -/
theorem opposite_add_spec (n : Nat) (X Y : PB) (hX : WF n X) (hY : WF n Y) :
    oppositeOp (· + ·) X Y =
      (sortR (List.zipWith (· + ·) X.left Y.left.reverse), sortR (List.zipWith (· + ·) X.right Y.right.reverse)) :=
  (oppositeOp_mono (· + ·) add_mono2 n X Y hX hY).1

/-- **`X.add(Y,'o')`** through the constructor -/
theorem add_o_spec (n : Nat) (X Y : PB) (hX : WF n X) (hY : WF n Y) :
    binop n .add .o X Y =
      .ok ⟨sortR (List.zipWith (· + ·) X.left Y.left.reverse), sortR (List.zipWith (· + ·) X.right Y.right.reverse)⟩ := by
  obtain ⟨e1, e2, -⟩ := oppositeOp_mono (· + ·) add_mono2 n X Y hX hY
  simp only [oppF] at e1 e2
  simp only [binop, add, e1, e2]

theorem zipWith_mulPos_eq (X Y : PB) (pX : NonNeg X) (pY : NonNeg Y) :
    List.zipWith mulPos X.left Y.left = List.zipWith (· * ·) X.left Y.left ∧
    List.zipWith mulPos X.right Y.right = List.zipWith (· * ·) X.right Y.right :=
  ⟨zipWith_congr_mem mulPos (· * ·) X.left Y.left (fun x hx y hy => mulPos_eq x y (pX.1 x hx) (pY.1 y hy)),
    zipWith_congr_mem mulPos (· * ·) X.right Y.right (fun x hx y hy => mulPos_eq x y (pX.2 x hx) (pY.2 y hy))⟩

/-- **perfect dependence, product of non-negative operands**: step `k` of the result is exactly
`X_k · Y_k` (no re-ordering) -/
theorem perfect_mul_steps_pos (n : Nat) (X Y : PB) (hX : WF n X) (hY : WF n Y) (pX : NonNeg X) (pY : NonNeg Y) :
    perfectOp (· * ·) X Y =
      (List.zipWith (· * ·) X.left Y.left, List.zipWith (· * ·) X.right Y.right) := by
  obtain ⟨el, er⟩ := zipWith_mulPos_eq X Y pX pY
  rw [perfectOp_mul_eq X Y pX pY, (perfect_mono_steps mulPos mulPos_mono2 n X Y hX hY).1, el, er]

/-- **`X.mul(Y,'p')`** for non-negative operands, through the constructor -/
theorem mul_p_steps_pos (n : Nat) (X Y : PB) (hX : WF n X) (hY : WF n Y) (pX : NonNeg X) (pY : NonNeg Y) :
    binop n .mul .p X Y =
      .ok ⟨List.zipWith (· * ·) X.left Y.left, List.zipWith (· * ·) X.right Y.right⟩ := by
  obtain ⟨el, er⟩ := zipWith_mulPos_eq X Y pX pY
  have e2 := (perfect_mono_steps mulPos mulPos_mono2 n X Y hX hY).2
  rw [el, er] at e2
  simp only [binop, mul, perfect_mul_steps_pos n X Y hX hY pX pY, e2]

/-! ## `sub` mirrors `p ↔ o` through negation -/

theorem zipWith_add_map_neg (a b : List Rat) :
    List.zipWith (· + ·) a (b.map (fun v => -v)) = List.zipWith (· - ·) a b := by
  rw [List.zipWith_map_right]
  congr 1
  funext x y
  exact (sub_eq_add_neg x y).symm

theorem flipB_left_reverse (φ : Rat → Rat) (Y : PB) : (flipB φ Y).left.reverse = Y.right.map φ := by
  simp [flipB, List.map_reverse]

theorem flipB_right_reverse (φ : Rat → Rat) (Y : PB) : (flipB φ Y).right.reverse = Y.left.map φ := by
  simp [flipB, List.map_reverse]

/-- **`X.sub(Y,'p')` = sorted endpoints of the focal differences `X_k − Y_k = [xl_k − yr_k, xr_k − yl_k]`.**
The method computes `X.add(−Y,'o')`; `−Y` lists the steps of `Y` in reverse order, and opposite
pairing `k ↦ n-1-k` of the reversed list is the pairing `k ↦ k` of the original. -/
theorem sub_mirror_p (n : Nat) (X Y : PB) (hX : WF n X) (hY : WF n Y) :
    binop n .sub .p X Y =
      .ok ⟨sortR (List.zipWith (· - ·) X.left Y.right), sortR (List.zipWith (· - ·) X.right Y.left)⟩ := by
  obtain ⟨en, wn⟩ := neg_wf n Y hY
  obtain ⟨e1, e2, -⟩ := oppositeOp_mono (· + ·) add_mono2 n X (negB Y) hX wn
  simp only [oppF, flipB_left_reverse, flipB_right_reverse, zipWith_add_map_neg] at e1 e2
  simp only [binop, sub, en, swapPO, bind, Except.bind, add, e1, e2]

/-- **`X.sub(Y,'o')` = step by step `X_k − Y_{n-1-k}`** (computed as `X.add(−Y,'p')`; no re-ordering) -/
theorem sub_mirror_o (n : Nat) (X Y : PB) (hX : WF n X) (hY : WF n Y) :
    binop n .sub .o X Y =
      .ok ⟨List.zipWith (· - ·) X.left Y.right.reverse, List.zipWith (· - ·) X.right Y.left.reverse⟩ := by
  obtain ⟨en, wn⟩ := neg_wf n Y hY
  have h := add_p_steps n X (negB Y) hX wn
  simp only [binop] at h
  simp only [binop, sub, en, swapPO, bind, Except.bind, h]
  simp only [flipB, zipWith_add_map_neg]

/-! ## `div` mirrors `p ↔ o` through the reciprocal -/

theorem zipWith_mul_map_inv (a b : List Rat) :
    List.zipWith (· * ·) a (b.map (fun v => 1 / v)) = List.zipWith (· / ·) a b := by
  rw [List.zipWith_map_right]
  congr 1
  funext x y
  exact mul_one_div x y

theorem cornerPair_mul_inv (xl xr yl yr : List Rat) :
    cornerPair (· * ·) xl xr (yl.map (fun v => 1 / v)) (yr.map (fun v => 1 / v)) =
      cornerPair (· / ·) xl xr yl yr := by
  simp only [cornerPair, zipWith_mul_map_inv]

/-- **`X.div(Y,'p')` = sorted endpoints of the focal quotients `X_k / Y_k`** for every well-formed
zero-free divisor (each `X_k / Y_k` is the four-corner hull of `x / y`, `x ∈ {xl_k, xr_k}`,
`y ∈ {yr_k, yl_k}`).  The method computes `X.mul(1/Y,'o')`; `1/Y` lists the steps of `Y` in reverse
order, so the opposite pairing of the reversed list is the pairing `k ↦ k` of the original. -/
theorem div_mirror_p (n : Nat) (X Y : PB) (hX : WF n X) (hY : WF n Y) (z : ZeroFree Y) :
    binop n .div .p X Y =
      .ok ⟨sortR (cornerPair (· / ·) X.left X.right Y.right Y.left).1,
           sortR (cornerPair (· / ·) X.left X.right Y.right Y.left).2⟩ := by
  simp only [binop, div_eq_mul_recip n .p X Y hY z, swapPO, mul, oppositeOp]
  rw [flipB_left_reverse, flipB_right_reverse, cornerPair_mul_inv]
  exact mk_cornerPair_ok (· / ·) n _ _ _ _ hX.llen hX.rlen hY.rlen hY.llen

/-- **`X.div(Y,'o')` = sorted endpoints of the focal quotients `X_k / Y_{n-1-k}`** -/
theorem div_mirror_o (n : Nat) (X Y : PB) (hX : WF n X) (hY : WF n Y) (z : ZeroFree Y) :
    binop n .div .o X Y =
      .ok ⟨sortR (cornerPair (· / ·) X.left X.right Y.right.reverse Y.left.reverse).1,
           sortR (cornerPair (· / ·) X.left X.right Y.right.reverse Y.left.reverse).2⟩ := by
  simp only [binop, div_eq_mul_recip n .o X Y hY z, swapPO, mul, perfectOp, flipB, cornerPair_mul_inv]
  exact mk_cornerPair_ok (· / ·) n _ _ _ _ hX.llen hX.rlen (by simp [hY.rlen]) (by simp [hY.llen])

/-- both mirrorings for a positive divisor -/
theorem div_mirror_pos (n : Nat) (X Y : PB) (hX : WF n X) (hY : WF n Y) (pY : ∀ v ∈ Y.left, 0 < v) :
    binop n .div .p X Y =
      .ok ⟨sortR (cornerPair (· / ·) X.left X.right Y.right Y.left).1,
           sortR (cornerPair (· / ·) X.left X.right Y.right Y.left).2⟩ ∧
    binop n .div .o X Y =
      .ok ⟨sortR (cornerPair (· / ·) X.left X.right Y.right.reverse Y.left.reverse).1,
           sortR (cornerPair (· / ·) X.left X.right Y.right.reverse Y.left.reverse).2⟩ :=
  ⟨div_mirror_p n X Y hX hY (Or.inl pY), div_mirror_o n X Y hX hY (Or.inl pY)⟩

/-- quotient of two focal intervals with a positive divisor `[c, d]`: the four-corner min/max (corners
in the order the method visits them: `a/d, a/c, b/d, b/c`) encloses every pointwise quotient and both
are attained -/
theorem focal_div_exact_pos (a b c d : Rat) (hab : a ≤ b) (hc : 0 < c) (hcd : c ≤ d) :
    (∀ x y, a ≤ x → x ≤ b → c ≤ y → y ≤ d →
      min4 (a/d) (a/c) (b/d) (b/c) ≤ x/y ∧ x/y ≤ max4 (a/d) (a/c) (b/d) (b/c)) ∧
    (∃ x y, a ≤ x ∧ x ≤ b ∧ c ≤ y ∧ y ≤ d ∧ x/y = min4 (a/d) (a/c) (b/d) (b/c)) ∧
    (∃ x y, a ≤ x ∧ x ≤ b ∧ c ≤ y ∧ y ≤ d ∧ x/y = max4 (a/d) (a/c) (b/d) (b/c)) := by
  have hd : 0 < d := lt_of_lt_of_le hc hcd
  have hinv : 1 / d ≤ 1 / c := one_div_le_one_div_of_le hc hcd
  obtain ⟨h1, h2, h3⟩ := focal_mul_exact a b (1 / d) (1 / c) hab hinv
  simp only [mul_one_div] at h1 h2 h3
  have back : ∀ y', 1 / d ≤ y' → y' ≤ 1 / c → c ≤ 1 / y' ∧ 1 / y' ≤ d := by
    intro y' hy1 hy2
    have hy0 : 0 < y' := lt_of_lt_of_le (one_div_pos.mpr hd) hy1
    constructor
    · have := one_div_le_one_div_of_le hy0 hy2
      rwa [one_div_one_div] at this
    · have := one_div_le_one_div_of_le (one_div_pos.mpr hd) hy1
      rwa [one_div_one_div] at this
  refine ⟨?_, ?_, ?_⟩
  · intro x y hx1 hx2 hy1 hy2
    have hy0 : 0 < y := lt_of_lt_of_le hc hy1
    have := h1 x (1 / y) hx1 hx2 (one_div_le_one_div_of_le hy0 hy2) (one_div_le_one_div_of_le hc hy1)
    rwa [mul_one_div] at this
  · obtain ⟨x, y', hx1, hx2, hy1, hy2, e⟩ := h2
    obtain ⟨b1, b2⟩ := back y' hy1 hy2
    exact ⟨x, 1 / y', hx1, hx2, b1, b2, by rw [div_div_eq_mul_div, div_one]; exact e⟩
  · obtain ⟨x, y', hx1, hx2, hy1, hy2, e⟩ := h3
    obtain ⟨b1, b2⟩ := back y' hy1 hy2
    exact ⟨x, 1 / y', hx1, hx2, b1, b2, by rw [div_div_eq_mul_div, div_one]; exact e⟩

example : WF 2 ⟨[1, 2], [2, 4]⟩ := ⟨⟨rfl, rfl, by decide, by decide⟩, by decide⟩
example : ZeroFree ⟨[1, 2], [2, 4]⟩ := Or.inl (by decide)
example : List.zipWith (· - ·) [1, 2] [6, 1] = ([-5, 1] : List Rat) := by decide +kernel

example : condenseIdx (200 * 200) 200 7 = 7 * 201 := by decide +kernel

end Pun.PBox
