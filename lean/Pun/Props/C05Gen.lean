import Pun.Props.C05
import Pun.Gen.TrigGen
import Mathlib.Tactic.Tauto
/-!
# C05 — the case tables regenerated from `methods.py` equal the hand model

`Pun/Gen/TrigGen.lean` is rewritten on every run by `harness/pv/translator/trig.py` from the scalar
`sin`, `cos`, `tan` of `pba/intervals/methods.py`: the period each endpoint is reduced by, every
threshold (as an expression in `numpy_pi`), the strictness of every comparison, the order of the
tests and the endpoint expressions returned.  Here they are proved equal, for all inputs, to the
hand-written `sinShape / cosShape / tanInf` + `bounds` that the theorems of `Props/C05.lean` and
`Props/C05Real.lean` are about (period `T = 2·p`, resp. `P = p`).
-/
-- For the tables as generated from the present source `simp only` already closes the three goals;
-- the idle simp arguments and the closing `ite_chain` are for tables that write the same tests differently.
set_option linter.unusedSimpArgs false
set_option linter.unusedTactic false
namespace Pun.Elem
open Pun.Gen.Trig

/-- closes `if c then a else r = if c' then a else r'` chains: conditions equal up to
propositional rearrangement, branches syntactically equal -/
macro "ite_chain" : tactic =>
  `(tactic| repeat (first | with_reducible rfl | (refine if_congr ?_ (by with_reducible rfl) ?_; · first | with_reducible exact Iff.rfl | tauto)))

theorem sinGen_eq (p w yl yh sl sh : ℚ) :
    sinGen p w yl yh sl sh = (sinShape w yl yh (2 * p)).map (bounds sl sh) := by
  have e4 : 2 * p / 4 = p / 2 := by ring
  unfold sinGen sinShape
  simp only [e4, ge_iff_le, gt_iff_lt, and_assoc, or_assoc, apply_ite (Option.map (bounds sl sh)), Option.map_some, Option.map_none, bounds]
  ite_chain

theorem cosGen_eq (p w yl yh sl sh : ℚ) :
    cosGen p w yl yh sl sh = (cosShape w yl yh (2 * p)).map (bounds sl sh) := by
  have e2 : 2 * p / 2 = p := by ring
  unfold cosGen cosShape
  simp only [e2, ge_iff_le, gt_iff_lt, and_assoc, or_assoc, apply_ite (Option.map (bounds sl sh)), Option.map_some, Option.map_none, bounds]
  ite_chain

theorem tanGen_eq (p w zl zh tl th : ℚ) :
    tanGen p w zl zh tl th = some (if tanInf w zl zh p then none else some (tl, th)) := by
  unfold tanGen tanInf
  simp only [ge_iff_le, gt_iff_lt, and_assoc, or_assoc, decide_eq_true_eq, apply_ite some, ite_self]
  ite_chain

/-- the periods the code reduces by are the model's -/
theorem periods_eq : sinPeriod piD = twopiD ∧ cosPeriod piD = twopiD ∧ tanPeriod piD = piD := ⟨rfl, rfl, rfl⟩

theorem trigI_of_map {o : Option Shape} {sl sh a b : ℚ} (h : o.map (bounds sl sh) = some (a, b)) :
    trigI o sl sh = mkI a b := by
  cases o with
  | none => cases h
  | some s =>
    show mkI (bounds sl sh s).1 (bounds sl sh s).2 = mkI a b
    rw [Option.some.inj h]

/-- consequently the interval the regenerated scalar sine returns is what the hand model's `sinI`
returns (before the constructor's assertion) — the enclosure theorems transfer -/
theorem sinGen_sinI (p w yl yh sl sh : ℚ) (a b : ℚ) (h : sinGen p w yl yh sl sh = some (a, b)) :
    sinI (2 * p) w yl yh sl sh = mkI a b := by
  rw [sinGen_eq] at h
  exact trigI_of_map h

theorem cosGen_cosI (p w yl yh sl sh : ℚ) (a b : ℚ) (h : cosGen p w yl yh sl sh = some (a, b)) :
    cosI (2 * p) w yl yh sl sh = mkI a b := by
  rw [cosGen_eq] at h
  exact trigI_of_map h

end Pun.Elem
