import Pun.Model.UN
import Mathlib.Tactic.Ring
/-!
# C15 — UncertainNumber arithmetic equals construct arithmetic; units obey unit algebra

* unit algebra laws of `Dim` and of pint's quantity operators `qOp`;
* `number_rule_*` : what `pass_down_units` does with a bare number is the rule of the statement;
* `un_op_spec` : for EVERY construct algebra `alg`, every operator and every operand pair of
  the quantifier, the class's dispatch (`pyBin`: forward method, reflected methods as coded,
  `bin_ops`, `pass_down_units`) returns exactly the specified table `specBin`
  (same operation on the converted constructs, unit from `unitSpec`), errors included;
* `step_spec`, `hist_spec` : the same for histories — any sequence of operators applied to the
  number derived from the previous result (`derive`: class, construct, magnitude, dimension of
  the result and nothing else); `exponent_by_reflected_sub` : `X ** (c − V)`;
* `PBn.rsub_mirror`, `neg_eq_zero_sub`, `rsub_pointwise`, `rdiv_pointwise_*` : on quantile lists,
  `c − U = −(U − c)`, `−U = 0 − U`, and `c − U`, `c / U` are pointwise `c − x`, `c / x` with the
  bounds exchanged and the probability levels reversed (zero-straddling divisor rejected).
-/
namespace Pun.UN

/-! ## unit algebra -/
namespace Dim
@[ext] theorem ext' {a b : Dim} (h1 : a.m = b.m) (h2 : a.s = b.s) (h3 : a.kg = b.kg) : a = b := by
  cases a
  cases b
  rw [Dim.mk.injEq]
  exact ⟨h1, h2, h3⟩

theorem mul_comm (a b : Dim) : a.mul b = b.mul a := by
  apply ext' <;> simp only [mul] <;> ring
theorem mul_assoc (a b c : Dim) : (a.mul b).mul c = a.mul (b.mul c) := by
  apply ext' <;> simp only [mul] <;> ring
theorem mul_one (a : Dim) : a.mul one = a := by
  apply ext' <;> simp only [mul, one] <;> ring
theorem one_mul (a : Dim) : one.mul a = a := by
  rw [mul_comm, mul_one]
theorem div_one (a : Dim) : a.div one = a := by
  apply ext' <;> simp only [div, one] <;> ring
theorem div_mul_cancel (a b : Dim) : (a.div b).mul b = a := by
  apply ext' <;> simp only [mul, div] <;> ring
theorem mul_div_cancel (a b : Dim) : (a.mul b).div b = a := by
  apply ext' <;> simp only [mul, div] <;> ring
theorem div_self (a : Dim) : a.div a = one := by
  apply ext' <;> simp only [div, one] <;> ring
theorem div_eq_mul_inv (a b : Dim) : a.div b = a.mul (one.div b) := by
  apply ext' <;> simp only [mul, div, one] <;> ring
theorem pow_add (a : Dim) (j k : Rat) : a.pow (j + k) = (a.pow j).mul (a.pow k) := by
  apply ext' <;> simp only [mul, pow] <;> ring
theorem pow_mul (a : Dim) (j k : Rat) : a.pow (j * k) = (a.pow j).pow k := by
  apply ext' <;> simp only [pow] <;> ring
theorem pow_one (a : Dim) : a.pow 1 = a := by
  apply ext' <;> simp only [pow] <;> ring
theorem pow_zero (a : Dim) : a.pow 0 = one := by
  apply ext' <;> simp only [pow, one] <;> ring
theorem pow_two (a : Dim) : a.pow 2 = a.mul a := by
  apply ext' <;> simp only [pow, mul] <;> ring
theorem pow_neg_one (a : Dim) : a.pow (-1) = one.div a := by
  apply ext' <;> simp only [pow, div, one] <;> ring
theorem one_pow (k : Rat) : one.pow k = one := by
  apply ext' <;> simp only [pow, one] <;> ring
theorem mul_pow (a b : Dim) (k : Rat) : (a.mul b).pow k = (a.pow k).mul (b.pow k) := by
  apply ext' <;> simp only [pow, mul] <;> ring
end Dim

theorem ite_ok_iff {a b d : Dim} {e : UErr} :
    (if a = b then Except.ok a else Except.error e) = .ok d ↔ (a = b ∧ d = a) := by
  split <;> simp [*, eq_comm]

theorem add_requires_eq (a b d : Dim) (k : Rat) : qOp .add a b k = .ok d ↔ (a = b ∧ d = a) := ite_ok_iff
theorem sub_requires_eq (a b d : Dim) (k : Rat) : qOp .sub a b k = .ok d ↔ (a = b ∧ d = a) := ite_ok_iff
theorem add_incompatible (a b : Dim) (k : Rat) (h : a ≠ b) :
    qOp .add a b k = .error .dimensionality ∧ qOp .sub a b k = .error .dimensionality := by
  simp [qOp, h]
example : qOp .add ⟨1, 0, 0⟩ ⟨0, 1, 0⟩ 0 = .error .dimensionality := by decide +kernel
example : qOp .add ⟨1, -1, 0⟩ ⟨1, -1, 0⟩ 0 = .ok ⟨1, -1, 0⟩ := by decide +kernel

theorem pow_requires_dimensionless (a b : Dim) (k : Rat) (h : b ≠ Dim.one) :
    qOp .pow a b k = .error .dimensionality := by
  simp [qOp, h]

variable {C : Type}

/-! ## the number rule (`pass_down_units`, number branch) -/
theorem number_rule_forward (u : UNv C) (c : Rat) (op : Op) :
    passDownUnits u (.num c) op false = unitSpec op (some u.dim) none c := by
  cases op <;> simp [passDownUnits, numDim, qOp, unitSpec, Dim.mul_one, Dim.div_one]

theorem number_rule_reflected (u : UNv C) (c : Rat) (op : Op) :
    passDownUnits u (.num c) op true = unitSpec op none (some u.dim) u.nom := by
  cases op <;> simp [passDownUnits, numDim, qOp, unitSpec, Dim.one_pow, Dim.one_mul]

/-- spelled out: `U * c`, `U / c` keep the unit; `U ± c` keep it; `U ** c` scales the exponents;
`c / U` inverts it; `c ** U` needs a dimensionless `U` -/
theorem number_rule_values (u : UNv C) (c : Rat) :
    passDownUnits u (.num c) .mul false = .ok u.dim ∧
    passDownUnits u (.num c) .div false = .ok u.dim ∧
    passDownUnits u (.num c) .add false = .ok u.dim ∧
    passDownUnits u (.num c) .sub false = .ok u.dim ∧
    passDownUnits u (.num c) .sub true = .ok u.dim ∧
    passDownUnits u (.num c) .pow false = .ok (u.dim.pow c) ∧
    passDownUnits u (.num c) .div true = .ok (Dim.one.div u.dim) ∧
    (u.dim ≠ Dim.one → passDownUnits u (.num c) .pow true = .error .dimensionality) ∧
    (u.dim = Dim.one → passDownUnits u (.num c) .pow true = .ok Dim.one) := by
  simp only [number_rule_forward, number_rule_reflected, unitSpec, true_and]
  constructor
  · intro h; simp [h]
  · intro h; simp [h]

/-! ## the class's table is the specified table -/

/-- operand pairs of the quantifier: an uncertain number on the left with anything on the
right, or a plain number on the left of an uncertain number -/
def InScope : Opd C → Opd C → Prop
  | .un _, _ => True
  | .num _, .un _ => True
  | _, _ => False

/-- pint's arithmetic on two quantities is the unit algebra of the statement -/
theorem qOp_eq_unitSpec (op : Op) (a b : Dim) (k : Rat) : qOp op a b k = unitSpec op (some a) (some b) k := by
  cases op <;> rfl

/-- **C15**: the operators of the class, as coded (forward methods, reflected methods by
delegation / `reflected=True`, `bin_ops`, `pass_down_units`), compute exactly the specified
table, for every construct algebra, operator, essence, unit and number; errors included. -/
theorem un_op_spec (alg : CAlg C) (op : Op) (l r : Opd C) (h : InScope l r) :
    pyBin alg op l r = some (specBin alg op l r) := by
  cases l with
  | un u =>
    cases r with
    | un v =>
      simp only [pyBin, dunder, binOps, specBin, consSpec, passDownUnits, dimOf, expoOf, qOp_eq_unitSpec,
        binEss, essSpec, passDownMag, magOf]
    | num c =>
      simp only [pyBin, dunder, binOps, specBin, consSpec, dimOf, expoOf, number_rule_forward, binEss, essSpec,
        passDownMag, magOf, Bool.false_eq_true, if_false]
    | cons => rfl
    | other => rfl
  | num c =>
    cases r with
    | un u =>
      -- `c + U`, `c * U` are computed as `U + c`, `U * c` (the magnitudes commute); `c - U`, `c / U` keep an
      -- interval and convert every other construct; `c ** U` always converts: unfold both tables and compare
      obtain ⟨ess, cons, nom, dim⟩ := u
      cases op <;>
        simp only [pyBin, rdunder, dunder, rpow, binOps, specBin, consSpec, dimOf, expoOf, number_rule_forward,
          number_rule_reflected, binEss, essSpec, passDownMag, magOp, magOf, add_comm c, mul_comm c] <;>
        cases ess <;> rfl
    | num _ => exact h.elim
    | cons => exact h.elim
    | other => exact h.elim
  | cons => exact h.elim
  | other => exact h.elim

example : InScope (C := Term) (.num 2) (.un ⟨.interval, .B, 3/2, ⟨1, 0, 0⟩⟩) := trivial
example : pyBin termAlg .div (.num 2) (.un ⟨.dss, .B, 3/2, ⟨1, 0, 0⟩⟩)
    = some (.ok ⟨.pbox, .nc .div 2 (.conv .B), 2 / (3/2), Dim.one.div ⟨1, 0, 0⟩⟩) := rfl

theorem neg_spec (alg : CAlg C) (u : UNv C) :
    pyNeg alg u = (alg.neg u.ess u.cons).map (fun c => ⟨numEss u.ess, c, -u.nom, u.dim⟩) := by
  unfold pyNeg
  cases alg.neg u.ess u.cons <;> rfl

theorem specBin_ok {alg : CAlg C} {op : Op} {l r : Opd C} {x : Res C} (h : specBin alg op l r = .ok x) :
    unitSpec op (dimOf l) (dimOf r) (expoOf r) = .ok x.dim ∧
      x.nom = magOp alg.powMag op (magOf l) (magOf r) := by
  unfold specBin at h
  cases hc : consSpec alg op l r with
  | error e => rw [hc] at h; cases h
  | ok c =>
    cases hd : unitSpec op (dimOf l) (dimOf r) (expoOf r) with
    | error e => rw [hc, hd] at h; cases h
    | ok d => rw [hc, hd] at h; cases h; exact ⟨rfl, rfl⟩

theorem pyBin_ok {alg : CAlg C} {op : Op} {l r : Opd C} {x : Res C}
    (h : pyBin alg op l r = some (.ok x)) (hs : InScope l r) :
    unitSpec op (dimOf l) (dimOf r) (expoOf r) = .ok x.dim ∧
      x.nom = magOp alg.powMag op (magOf l) (magOf r) :=
  specBin_ok (Option.some.inj ((un_op_spec alg op l r hs).symm.trans h))

theorem unit_of_product (alg : CAlg C) (u v : UNv C) (x : Res C)
    (h : pyBin alg .mul (.un u) (.un v) = some (.ok x)) : x.dim = u.dim.mul v.dim := by
  exact (Except.ok.inj (pyBin_ok h trivial).1).symm

theorem unit_of_quotient (alg : CAlg C) (u v : UNv C) (x : Res C)
    (h : pyBin alg .div (.un u) (.un v) = some (.ok x)) : x.dim = u.dim.div v.dim := by
  exact (Except.ok.inj (pyBin_ok h trivial).1).symm

theorem add_incompatible_is_error (alg : CAlg C) (u v : UNv C) (hd : u.dim ≠ v.dim) (x : Res C) :
    pyBin alg .add (.un u) (.un v) ≠ some (.ok x) ∧ pyBin alg .sub (.un u) (.un v) ≠ some (.ok x) := by
  have key : ∀ op : Op, (∀ d, unitSpec op (some u.dim) (some v.dim) v.nom = .ok d → u.dim = v.dim) →
      pyBin alg op (.un u) (.un v) ≠ some (.ok x) := by
    intro op hop h
    exact hd (hop _ (pyBin_ok h trivial).1)
  exact ⟨key .add fun _ h => (ite_ok_iff.mp h).1, key .sub fun _ h => (ite_ok_iff.mp h).1⟩

/-! ## histories: a second (third, …) operation on a derived uncertain number -/

theorem derive_carries (r : Res C) :
    (derive r).ess = r.ess ∧ (derive r).cons = r.cons ∧ (derive r).nom = r.nom ∧ (derive r).dim = r.dim :=
  ⟨rfl, rfl, rfl, rfl⟩

/-- every further operator applied to an uncertain number (original or derived) follows the
specified table: `acc op r`, `c op acc`, `acc op acc`, `-acc` -/
theorem step_spec (alg : CAlg C) (u : UNv C) (s : Step C) : codeStep alg u s = specStep alg u s := by
  cases s with
  | opR op r => exact Option.some.inj (un_op_spec alg op (.un u) r trivial)
  | opL op c => exact Option.some.inj (un_op_spec alg op (.num c) (.un u) trivial)
  | self op => exact Option.some.inj (un_op_spec alg op (.un u) (.un u) trivial)
  | neg => exact neg_spec alg u

/-- **C15 for histories**: any sequence of operators, each applied to the number derived from
the previous result, computes what the specified table computes step by step — for every
construct algebra, every start, every sequence, errors included -/
theorem hist_spec (alg : CAlg C) (u : UNv C) (steps : List (Step C)) :
    runHist (codeStep alg) u steps = runHist (specStep alg) u steps := by
  induction steps generalizing u with
  | nil => rfl
  | cons s rest ih =>
    simp only [runHist, step_spec]
    cases specStep alg u s with
    | error e => rfl
    | ok r => exact ih (derive r)

/-- a chain through `**`: the exponent `c − V` built by reflected subtraction from a
dimensionless `V` has magnitude `c − nominal V`, so `X ** (c − V)` has dimension
`dim X ^ (c − nominal V)` (not `dim X ^ (nominal V − c)`) -/
theorem exponent_by_reflected_sub (alg : CAlg C) (x v : UNv C) (c : Rat) (hv : v.dim = Dim.one)
    (e r : Res C) (h1 : pyBin alg .sub (.num c) (.un v) = some (.ok e))
    (h2 : pyBin alg .pow (.un x) (.un (derive e)) = some (.ok r)) :
    e.nom = c - v.nom ∧ e.dim = Dim.one ∧ r.dim = x.dim.pow (c - v.nom) := by
  obtain ⟨hd1, hn1⟩ := pyBin_ok h1 trivial
  obtain ⟨hd2, _⟩ := pyBin_ok h2 trivial
  have he : e.dim = Dim.one := (Except.ok.inj hd1).symm.trans hv
  have hr : (if e.dim = Dim.one then Except.ok (x.dim.pow e.nom) else .error UErr.dimensionality) = .ok r.dim := hd2
  rw [if_pos he, hn1] at hr
  exact ⟨hn1, he, (Except.ok.inj hr).symm⟩

example : pyBin termAlg .sub (.num 3) (.un ⟨.interval, .B, 1, Dim.one⟩)
    = some (.ok ⟨.interval, .nc .sub 3 .B, 3 - 1, Dim.one⟩) := rfl

example : runHist (codeStep termAlg) ⟨.interval, .A, 3/2, ⟨1, 0, 0⟩⟩ [.opR .add (.num 1), .neg, .opL .sub 10]
    = .ok ⟨.interval, .nc .sub 10 (.neg (.cn .add .A 1)), 10 - -(3/2 + 1), ⟨1, 0, 0⟩⟩ := rfl

/-! ## mirror images on quantile lists -/
namespace PBn

theorem rsub_mirror (c : Rat) (p : PBn) : rsubN c p = neg (subN p c) := by
  simp only [rsubN, neg, addN, subN, List.map_reverse, List.map_map, Function.comp_def, neg_sub,
    neg_add_eq_sub]

theorem rsub_pointwise (c : Rat) (p : PBn) :
    rsubN c p = ⟨(p.right.map (c - ·)).reverse, (p.left.map (c - ·)).reverse⟩ := by
  simp only [rsubN, neg, addN, List.map_reverse, List.map_map, Function.comp_def, neg_add_eq_sub]

theorem neg_eq_zero_sub (p : PBn) : neg p = rsubN 0 p := by
  simp only [rsub_pointwise, neg, zero_sub]

theorem neg_neg (p : PBn) : neg (neg p) = p := by
  cases p
  simp [neg, List.map_reverse, List.map_map]

theorem sub_eq_add_neg (p : PBn) (c : Rat) : subN p c = addN p (-c) := by
  simp only [subN, addN, _root_.sub_eq_add_neg]
theorem neg_rsub (c : Rat) (p : PBn) : neg (rsubN c p) = subN p c := by
  rw [rsub_mirror, neg_neg]

theorem rdiv_pointwise_nonneg (c : Rat) (p : PBn) (hc : 0 ≤ c) (hp : p.nonzero = true) :
    rdivN c p = some ⟨(p.right.map (c / ·)).reverse, (p.left.map (c / ·)).reverse⟩ := by
  simp only [rdivN, hp, if_true, mulN, hc, recip, List.map_reverse, List.map_map, Function.comp_def,
    one_div_mul_eq_div]

/-- for a negative number the two exchanges cancel -/
theorem rdiv_pointwise_neg (c : Rat) (p : PBn) (hc : c < 0) (hp : p.nonzero = true) :
    rdivN c p = some ⟨p.left.map (c / ·), p.right.map (c / ·)⟩ := by
  simp only [rdivN, hp, if_true, mulN, not_le.mpr hc, if_false, recip, List.map_reverse, List.map_map,
    List.reverse_reverse, Function.comp_def, one_div_mul_eq_div]

theorem rdiv_straddle (c : Rat) (p : PBn) (hp : p.nonzero = false) : rdivN c p = none := by
  simp [rdivN, hp]

example : rdivN 2 ⟨[1, 2], [2, 4]⟩ = some ⟨[1/2, 1], [1, 2]⟩ := by decide +kernel
example : rsubN 5 ⟨[1, 2], [2, 4]⟩ = ⟨[1, 3], [3, 4]⟩ := by decide +kernel
example : (⟨[1, 2], [2, 4]⟩ : PBn).nonzero = true := by decide +kernel

end PBn
end Pun.UN
