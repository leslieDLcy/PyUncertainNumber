import Pun.Lemmas.B2B
import Pun.Props.C01
import Mathlib.Algebra.Order.Ring.Abs
import Mathlib.Algebra.Order.Monoid.Unbundled.Pow
/-!
# C13 — interval propagation strategies nest around the true range

All statements are about the functions the driver executes (`Pun.Expr.evalIvl`,
`Pun.Expr.evalPt`, `Pun.B2B.tiles`, `corners`, `direct`, `endpoints`,
`subinterval`).  `φ` (the values of exp / sqrt) is arbitrary; only
monotonicity on the domain is assumed (`Mono φ`).

A binary operator application returns the exact range of the operator over its operands (`binVal_spec`); soundness,
inclusion isotonicity and preservation of zero width of one operator follow from that (for powers and exp / sqrt
from the two ends, `powVal_spec`, `unVal_ends`), and the theorems about expressions (`fundamental`,
`direct_isotone`, `evalIvl_degenerate`) by induction.  The theorems about tilings and corners hold coordinate by
coordinate (`Pun.Lemmas.B2B`).  `endpoints` and `subinterval` return the hull of what they compute on the corners
resp. on the tiles (`endpoints_minmax_corners`, `subinterval_spec`).

★ `fundamental` / `direct_encloses`, `direct_isotone` (unconditional; `binVal_spec` characterises when an operator
raises), `tiles_cover`, `tiles_within`, `tiles_reach_ends`, `tiles_interior_disjoint` (all `d`, `n`),
`subdirect_encloses`, `subdirect_within_direct`, `subdirect_total`, `subdirect_refines`, `endpoints_minmax_corners`,
`endpoints_inside_range`, `monotone_exact`, `subendpoints_between`, `nesting_chain` (the whole chain), `evalIvl_degenerate` (zero width is preserved).
-/
namespace Pun.B2B
open Pun Pun.Arith Pun.Expr

/-- `y` lies in the value (a number is the point interval) -/
def Mem (y : Rat) (v : Val) : Prop := v.lo ≤ y ∧ y ≤ v.hi

def InBox (x : List Rat) (box : Box) : Prop := List.Forall₂ (fun xi p => p.1 ≤ xi ∧ xi ≤ p.2) x box

/-- the only fact assumed about exp and sqrt: monotone on the domain -/
def Mono (φ : UFun → Rat → Rat) : Prop := ∀ f x y, f.dom x → x ≤ y → φ f x ≤ φ f y

/-- `u ⊆ u'` -/
def Incl (u u' : Val) : Prop := u'.lo ≤ u.lo ∧ u.hi ≤ u'.hi
def Valid (u : Val) : Prop := u.lo ≤ u.hi
def _root_.Pun.Expr.Val.isNum : Val → Bool | .num _ => true | .ivl _ _ => false

theorem mem_num {y c : Rat} (h : Mem y (.num c)) : y = c := le_antisymm h.2 h.1

theorem valid_of_mem {x : Rat} {v : Val} (h : Mem x v) : Valid v := le_trans h.1 h.2

theorem mem_lo {v : Val} (h : Valid v) : Mem v.lo v := ⟨le_refl _, h⟩

theorem mem_hi {v : Val} (h : Valid v) : Mem v.hi v := ⟨h, le_refl _⟩

theorem mem_of_incl {u u' : Val} {x : Rat} (h : Incl u u') (hx : Mem x u) : Mem x u' :=
  ⟨le_trans h.1 hx.1, le_trans hx.2 h.2⟩

theorem mem_degenerate {v : Val} {x : Rat} (hv : v.lo = v.hi) (hx : Mem x v) : x = v.lo :=
  le_antisymm (hv ▸ hx.2) hx.1

theorem valid_of_incl {v v' : Val} (hv : Valid v) (i : Incl v v') : Valid v' :=
  le_trans i.1 (le_trans hv i.2)

/-! ## one binary operator application -/

/-- the operator as a total function (`binPt` raises for a zero divisor) -/
def binFn : BinOp → Rat → Rat → Rat
  | .add, x, y => x + y
  | .sub, x, y => x - y
  | .mul, x, y => x * y
  | .div, x, y => x / y

theorem binPt_of_ne (op : BinOp) (x y : Rat) (h : op = .div → y ≠ 0) : binPt op x y = .ok (binFn op x y) := by
  cases op with
  | div => exact if_neg (h rfl)
  | _ => rfl

/-- the only arithmetic reason for `binVal` to raise: a divisor that contains zero -/
def BinDefined (op : BinOp) (r : Val) : Prop := op = .div → ¬ (r.lo ≤ 0 ∧ 0 ≤ r.hi)

theorem ne_zero_of_defined {op : BinOp} {r : Val} {y : Rat} (hd : BinDefined op r) (hy : Mem y r) : op = .div → y ≠ 0 := by
  rintro hop rfl
  exact hd hop hy

theorem binDefined_of_incl {op : BinOp} {r r' : Val} (ir : Incl r r') (h : BinDefined op r') : BinDefined op r :=
  fun hop ⟨h1, h2⟩ => h hop ⟨le_trans ir.1 h1, le_trans h2 ir.2⟩

theorem sameSign_of_not_straddle {c d : Rat} (h : ¬ (c ≤ 0 ∧ 0 ≤ d)) : 0 < c ∨ d < 0 := by
  rcases lt_or_ge 0 c with hc | hc
  · exact Or.inl hc
  · exact Or.inr (lt_of_not_ge fun hd => h ⟨hc, hd⟩)

theorem binVal_defined_of_ok {op : BinOp} {l r V : Val} (h : binVal op l r = .ok V) : BinDefined op r := by
  rintro rfl hz
  cases r with
  | num s =>
    obtain rfl : s = 0 := le_antisymm hz.1 hz.2
    cases l with
    | num p => simp [binVal, binPt, Except.map] at h
    | ivl a b => simp [binVal] at h
  | ivl c d =>
    have h1 : c ≤ 0 := hz.1
    have h2 : 0 ≤ d := hz.2
    cases l with
    | num p => simp [binVal, h1, h2] at h
    | ivl a b => simp [binVal, div_straddle_raises a b c d ⟨h1, h2⟩] at h

theorem div_left_mono {c d y y' : Rat} (h0 : 0 < c ∨ d < 0) (h1 : c ≤ y) (h2 : y ≤ y') (h3 : y' ≤ d) (p : Rat) :
    (0 ≤ p → p / y' ≤ p / y) ∧ (p ≤ 0 → p / y ≤ p / y') := by
  have hinv : y'⁻¹ ≤ y⁻¹ := by
    rcases h0 with h0 | h0
    · exact inv_anti₀ (lt_of_lt_of_le h0 h1) h2
    · exact (inv_le_inv_of_neg (lt_of_le_of_lt h3 h0) (lt_of_le_of_lt (le_trans h2 h3) h0)).mpr h2
  simp only [div_eq_mul_inv]
  exact ⟨fun hp => mul_le_mul_of_nonneg_left hinv hp, fun hp => mul_le_mul_of_nonpos_left hinv hp⟩

/-- `V` is the exact range of the operator over the operands `l` and `r`: it contains every value, and both its ends
are values -/
def BinHull (op : BinOp) (l r V : Val) : Prop :=
  (∀ x y, Mem x l → Mem y r → Mem (binFn op x y) V) ∧
  (∃ x y, Mem x l ∧ Mem y r ∧ binFn op x y = V.lo) ∧ (∃ x y, Mem x l ∧ Mem y r ∧ binFn op x y = V.hi)

/-- the shape of every case of `binVal_spec` that builds an `Interval`: the two ends handed to `Interval(lo, hi)` are
values of the operator at points of the operands, and every value lies between them (so `lo <= hi` holds) -/
theorem binVal_spec_of_corners {op : BinOp} {l r : Val} {x1 y1 x2 y2 : Rat} (hx1 : Mem x1 l) (hy1 : Mem y1 r)
    (hx2 : Mem x2 l) (hy2 : Mem y2 r) (he : binVal op l r = mk (binFn op x1 y1) (binFn op x2 y2))
    (hk : (l.isNum && r.isNum) = false)
    (hb : ∀ x y, Mem x l → Mem y r → binFn op x1 y1 ≤ binFn op x y ∧ binFn op x y ≤ binFn op x2 y2) :
    ∃ V, binVal op l r = .ok V ∧ V.isNum = (l.isNum && r.isNum) ∧ BinHull op l r V :=
  ⟨_, he.trans (mk_of_le (hb x1 y1 hx1 hy1).2), hk.symm, hb, ⟨x1, y1, hx1, hy1, rfl⟩, ⟨x2, y2, hx2, hy2, rfl⟩⟩

/-- ★ one operator application on valid operands raises ONLY for a divisor containing zero; otherwise it returns the
exact range of the operator over the two operands (a number iff both operands are numbers).  Every case of the
Python dispatch evaluates the operator at ends of the operands between which it is monotone; `Interval × Interval`
and `Interval ÷ Interval` are the C01 tables. -/
theorem binVal_spec (op : BinOp) (l r : Val) (hl : Valid l) (hr : Valid r) (hd : BinDefined op r) :
    ∃ V, binVal op l r = .ok V ∧ V.isNum = (l.isNum && r.isNum) ∧ BinHull op l r V := by
  cases l with
  | num p =>
    have mp : Mem p (.num p) := mem_lo hl
    cases r with
    | num s =>
      have ms : Mem s (.num s) := mem_lo hr
      refine ⟨.num (binFn op p s), ?_, rfl, fun x y hx hy => ?_, ⟨p, s, mp, ms, rfl⟩, ⟨p, s, mp, ms, rfl⟩⟩
      · rw [binVal, binPt_of_ne op p s (ne_zero_of_defined hd ms)]
        rfl
      · rw [mem_num hx, mem_num hy]
        exact ⟨le_refl _, le_refl _⟩
    | ivl c d =>
      have mc : Mem c (.ivl c d) := mem_lo hr
      have md : Mem d (.ivl c d) := mem_hi hr
      cases op with
      | add =>
        refine binVal_spec_of_corners mp mc mp md ?_ rfl fun x y hx hy => ⟨add_le_add hx.1 hy.1, add_le_add hx.2 hy.2⟩
        rw [binVal, add_comm c, add_comm d]
        rfl
      | sub =>
        exact binVal_spec_of_corners mp md mp mc rfl rfl fun x y hx hy => ⟨sub_le_sub hx.1 hy.2, sub_le_sub hx.2 hy.1⟩
      | mul =>
        by_cases hp : p ≥ 0
        · refine binVal_spec_of_corners mp mc mp md ?_ rfl fun x y hx hy => ?_
          · rw [binVal, if_pos hp, mul_comm c, mul_comm d]
            rfl
          · rw [mem_num hx]
            exact ⟨mul_le_mul_of_nonneg_left hy.1 hp, mul_le_mul_of_nonneg_left hy.2 hp⟩
        · refine binVal_spec_of_corners mp md mp mc ?_ rfl fun x y hx hy => ?_
          · rw [binVal, if_neg hp, mul_comm c, mul_comm d]
            rfl
          · rw [mem_num hx]
            exact ⟨mul_le_mul_of_nonpos_left hy.2 (le_of_not_ge hp), mul_le_mul_of_nonpos_left hy.1 (le_of_not_ge hp)⟩
      | div =>
        have h0 := sameSign_of_not_straddle (hd rfl)
        have he : binVal .div (.num p) (.ivl c d) = if p ≥ 0 then mk (p / d) (p / c) else mk (p / c) (p / d) :=
          if_neg (hd rfl)
        by_cases hp : p ≥ 0
        · refine binVal_spec_of_corners mp md mp mc (he.trans (if_pos hp)) rfl fun x y hx hy => ?_
          rw [mem_num hx]
          exact ⟨(div_left_mono h0 hy.1 hy.2 (le_refl d) p).1 hp, (div_left_mono h0 (le_refl c) hy.1 hy.2 p).1 hp⟩
        · refine binVal_spec_of_corners mp mc mp md (he.trans (if_neg hp)) rfl fun x y hx hy => ?_
          rw [mem_num hx]
          exact ⟨(div_left_mono h0 (le_refl c) hy.1 hy.2 p).2 (le_of_not_ge hp),
            (div_left_mono h0 hy.1 hy.2 (le_refl d) p).2 (le_of_not_ge hp)⟩
  | ivl a b =>
    have ma : Mem a (.ivl a b) := mem_lo hl
    have mb : Mem b (.ivl a b) := mem_hi hl
    cases r with
    | num s =>
      have ms : Mem s (.num s) := mem_lo hr
      cases op with
      | add =>
        exact binVal_spec_of_corners ma ms mb ms rfl rfl fun x y hx hy => ⟨add_le_add hx.1 hy.1, add_le_add hx.2 hy.2⟩
      | sub =>
        exact binVal_spec_of_corners ma ms mb ms rfl rfl fun x y hx hy => ⟨sub_le_sub hx.1 hy.2, sub_le_sub hx.2 hy.1⟩
      | mul =>
        by_cases hs : s ≥ 0
        · refine binVal_spec_of_corners ma ms mb ms (if_pos hs) rfl fun x y hx hy => ?_
          rw [mem_num hy]
          exact ⟨mul_le_mul_of_nonneg_right hx.1 hs, mul_le_mul_of_nonneg_right hx.2 hs⟩
        · refine binVal_spec_of_corners mb ms ma ms (if_neg hs) rfl fun x y hx hy => ?_
          rw [mem_num hy]
          exact ⟨mul_le_mul_of_nonpos_right hx.2 (le_of_not_ge hs), mul_le_mul_of_nonpos_right hx.1 (le_of_not_ge hs)⟩
      | div =>
        have he : binVal .div (.ivl a b) (.num s) = if s > 0 then mk (a / s) (b / s) else mk (b / s) (a / s) :=
          if_neg (ne_zero_of_defined hd ms rfl)
        by_cases hs : s > 0
        · refine binVal_spec_of_corners ma ms mb ms (he.trans (if_pos hs)) rfl fun x y hx hy => ?_
          rw [mem_num hy]
          exact ⟨div_le_div_of_nonneg_right hx.1 hs.le, div_le_div_of_nonneg_right hx.2 hs.le⟩
        · refine binVal_spec_of_corners mb ms ma ms (he.trans (if_neg hs)) rfl fun x y hx hy => ?_
          rw [mem_num hy]
          exact ⟨div_le_div_of_nonpos_of_le (le_of_not_gt hs) hx.2, div_le_div_of_nonpos_of_le (le_of_not_gt hs) hx.1⟩
    | ivl c d =>
      have mc : Mem c (.ivl c d) := mem_lo hr
      have md : Mem d (.ivl c d) := mem_hi hr
      cases op with
      | add =>
        exact binVal_spec_of_corners ma mc mb md rfl rfl fun x y hx hy => ⟨add_le_add hx.1 hy.1, add_le_add hx.2 hy.2⟩
      | sub =>
        exact binVal_spec_of_corners ma md mb mc rfl rfl fun x y hx hy => ⟨sub_le_sub hx.1 hy.2, sub_le_sub hx.2 hy.1⟩
      | mul =>
        obtain ⟨L, H, ht, hb, ⟨x1, y1, p1, p2, p3, p4, rfl⟩, ⟨x2, y2, q1, q2, q3, q4, rfl⟩⟩ := mul_exact_image a b c d hl hr
        exact binVal_spec_of_corners ⟨p1, p2⟩ ⟨p3, p4⟩ ⟨q1, q2⟩ ⟨q3, q4⟩ (by simp only [binVal, ht]; rfl) rfl
          fun x y hx hy => hb x y hx.1 hx.2 hy.1 hy.2
      | div =>
        obtain ⟨L, H, ht, hb, ⟨x1, y1, p1, p2, p3, p4, rfl⟩, ⟨x2, y2, q1, q2, q3, q4, rfl⟩⟩ :=
          divTable_sound a b c d hl hr (sameSign_of_not_straddle (hd rfl))
        exact binVal_spec_of_corners ⟨p1, p2⟩ ⟨p3, p4⟩ ⟨q1, q2⟩ ⟨q3, q4⟩ (by simp only [binVal, ht]; rfl) rfl
          fun x y hx hy => hb x y hx.1 hx.2 hy.1 hy.2

theorem binVal_ok {op : BinOp} {l r V : Val} (hl : Valid l) (hr : Valid r) (h : binVal op l r = .ok V) :
    V.isNum = (l.isNum && r.isNum) ∧ BinHull op l r V := by
  obtain ⟨W, hW, hk, hh⟩ := binVal_spec op l r hl hr (binVal_defined_of_ok h)
  cases ok_unique h hW
  exact ⟨hk, hh⟩

theorem binVal_sound (op : BinOp) (l r V : Val) (x y : Rat) (hl : Mem x l) (hr : Mem y r)
    (h : binVal op l r = .ok V) : ∃ z, binPt op x y = .ok z ∧ Mem z V :=
  ⟨_, binPt_of_ne op x y (ne_zero_of_defined (binVal_defined_of_ok h) hr),
    (binVal_ok (valid_of_mem hl) (valid_of_mem hr) h).2.1 x y hl hr⟩

/-- inclusion isotone because the ends of the smaller result are values of the operator, which the larger result
encloses -/
theorem binVal_isotone (op : BinOp) {l r l' r' V' : Val} (hl : Valid l) (hr : Valid r) (il : Incl l l') (ir : Incl r r')
    (kl : l.isNum = l'.isNum) (kr : r.isNum = r'.isNum) (h' : binVal op l' r' = .ok V') :
    ∃ V, binVal op l r = .ok V ∧ Incl V V' ∧ Valid V ∧ V.isNum = V'.isNum := by
  obtain ⟨V, hV, hk, hs, ⟨x1, y1, a1, b1, e1⟩, ⟨x2, y2, a2, b2, e2⟩⟩ :=
    binVal_spec op l r hl hr (binDefined_of_incl ir (binVal_defined_of_ok h'))
  obtain ⟨hk', hs', _⟩ := binVal_ok (valid_of_incl hl il) (valid_of_incl hr ir) h'
  have m1 := hs' x1 y1 (mem_of_incl il a1) (mem_of_incl ir b1)
  have m2 := hs' x2 y2 (mem_of_incl il a2) (mem_of_incl ir b2)
  have m3 := hs x1 y1 a1 b1
  rw [e1] at m1 m3
  rw [e2] at m2
  exact ⟨V, hV, ⟨m1.1, m2.2⟩, m3.2, by rw [hk, hk', kl, kr]⟩

theorem binVal_degenerate (op : BinOp) (l r V : Val) (hl : l.lo = l.hi) (hr : r.lo = r.hi)
    (h : binVal op l r = .ok V) : V.lo = V.hi := by
  obtain ⟨_, _, ⟨x1, y1, a1, b1, e1⟩, ⟨x2, y2, a2, b2, e2⟩⟩ := binVal_ok (le_of_eq hl) (le_of_eq hr) h
  rw [← e1, ← e2, mem_degenerate hl a1, mem_degenerate hr b1, mem_degenerate hl a2, mem_degenerate hr b2]

/-! ## natural powers -/

theorem even_pow_bounds (a b x : Rat) (k : Nat) (hk : k % 2 = 0) (h1 : a ≤ x) (h2 : x ≤ b) :
    (if a > 0 then a ^ k else if b < 0 then b ^ k else 0) ≤ x ^ k ∧ x ^ k ≤ max (a ^ k) (b ^ k) := by
  have hev : Even k := Nat.even_iff.mpr hk
  have habs : ∀ t : Rat, |t| ^ k = t ^ k := fun t => hev.pow_abs t
  constructor
  · split
    · rename_i ha
      exact pow_le_pow_left₀ (le_of_lt ha) h1 k
    · split
      · rename_i hb
        rw [← habs b, ← habs x]
        apply pow_le_pow_left₀ (abs_nonneg _)
        rw [abs_of_neg hb, abs_of_neg (lt_of_le_of_lt h2 hb)]; linarith
      · exact hev.pow_nonneg x
  · rw [← habs x, ← habs a, ← habs b]
    rcases le_total 0 x with hx | hx
    · apply le_max_of_le_right
      apply pow_le_pow_left₀ (abs_nonneg _)
      rw [abs_of_nonneg hx, abs_of_nonneg (le_trans hx h2)]; exact h2
    · apply le_max_of_le_left
      apply pow_le_pow_left₀ (abs_nonneg _)
      rw [abs_of_nonpos hx, abs_of_nonpos (le_trans h1 hx)]; linarith

/-- the one power that widens its operand: `X ** 0` is `[0, 1]` when `X` contains zero (`x ** 0` is `1`) -/
theorem powVal_zero_straddle {a b : Rat} (h1 : a ≤ 0) (h2 : 0 ≤ b) : powVal (.ivl a b) 0 = .ok (.ivl 0 1) := by
  simp only [powVal, Nat.zero_mod, if_true, pow_zero, if_neg (not_lt.mpr h1), if_neg (not_lt.mpr h2), max_self]
  exact mk_of_le zero_le_one

/-- ★ `Interval.__pow__` with a natural exponent never raises on a valid operand; it encloses every power, its upper
end is a power of a point of the operand and so is the lower end, except for exponent 0 on an interval containing
zero (`powVal_zero_straddle`) -/
theorem powVal_spec (v : Val) (k : Nat) (hv : Valid v) :
    ∃ V, powVal v k = .ok V ∧ V.isNum = v.isNum ∧ (∀ x, Mem x v → Mem (x ^ k) V) ∧ (∃ x, Mem x v ∧ x ^ k = V.hi) ∧
      ((k = 0 → v.isNum = false → ¬ (v.lo ≤ 0 ∧ 0 ≤ v.hi)) → ∃ x, Mem x v ∧ x ^ k = V.lo) := by
  cases v with
  | num c =>
    have hc : Mem c (.num c) := mem_lo hv
    refine ⟨.num (c ^ k), rfl, rfl, fun x hx => ?_, ⟨c, hc, ?_⟩, fun _ => ⟨c, hc, ?_⟩⟩
    · rw [mem_num hx]
      exact ⟨le_refl _, le_refl _⟩
    · exact Eq.refl (c ^ k)
    · exact Eq.refl (c ^ k)
  | ivl a b =>
    have ma : Mem a (.ivl a b) := mem_lo hv
    have mb : Mem b (.ivl a b) := mem_hi hv
    have hmax : ∃ x, Mem x (.ivl a b) ∧ x ^ k = max (a ^ k) (b ^ k) := by
      rcases max_choice (a ^ k) (b ^ k) with e | e
      · exact ⟨a, ma, e.symm⟩
      · exact ⟨b, mb, e.symm⟩
    by_cases hk : k % 2 = 0
    · have hb := fun x (hx : Mem x (.ivl a b)) => even_pow_bounds a b x k hk hx.1 hx.2
      refine ⟨.ivl (if a > 0 then a ^ k else if b < 0 then b ^ k else 0) (max (a ^ k) (b ^ k)), ?_, rfl, hb, hmax, fun h0 => ?_⟩
      · simp only [powVal, if_pos hk]
        exact mk_of_le ((hb a ma).1.trans (hb a ma).2)
      · show ∃ x, Mem x (.ivl a b) ∧ x ^ k = if a > 0 then a ^ k else if b < 0 then b ^ k else 0
        by_cases ha : a > 0
        · exact ⟨a, ma, (if_pos ha).symm⟩
        · by_cases hb' : b < 0
          · exact ⟨b, mb, by rw [if_neg ha, if_pos hb']⟩
          · have m0 : Mem 0 (.ivl a b) := ⟨not_lt.mp ha, not_lt.mp hb'⟩
            have hk0 : k ≠ 0 := fun hk0 => h0 hk0 rfl m0
            exact ⟨0, m0, by rw [if_neg ha, if_neg hb', zero_pow hk0]⟩
    · -- odd exponent: the power is increasing
      have hm := (Nat.odd_iff.mpr (by omega : k % 2 = 1)).strictMono_pow (R := Rat)
      have hb : ∀ x, Mem x (.ivl a b) → min (a ^ k) (b ^ k) ≤ x ^ k ∧ x ^ k ≤ max (a ^ k) (b ^ k) :=
        fun x hx => ⟨le_trans (min_le_left _ _) (hm.monotone hx.1), le_trans (hm.monotone hx.2) (le_max_right _ _)⟩
      refine ⟨.ivl (min (a ^ k) (b ^ k)) (max (a ^ k) (b ^ k)), ?_, rfl, hb, hmax, fun _ => ?_⟩
      · simp only [powVal, if_neg hk]
        exact mk_of_le ((hb a ma).1.trans (hb a ma).2)
      · rcases min_choice (a ^ k) (b ^ k) with e | e
        · exact ⟨a, ma, e.symm⟩
        · exact ⟨b, mb, e.symm⟩

theorem powVal_ok {v V : Val} {k : Nat} (hv : Valid v) (h : powVal v k = .ok V) :
    V.isNum = v.isNum ∧ ∀ x, Mem x v → Mem (x ^ k) V := by
  obtain ⟨W, hW, hk, hs, _⟩ := powVal_spec v k hv
  cases ok_unique h hW
  exact ⟨hk, hs⟩

theorem powVal_sound (v V : Val) (k : Nat) (x : Rat) (hv : Mem x v) (h : powVal v k = .ok V) : Mem (x ^ k) V :=
  (powVal_ok (valid_of_mem hv) h).2 x hv

theorem powVal_isotone (k : Nat) {v v' V' : Val} (hv : Valid v) (iv : Incl v v') (kv : v.isNum = v'.isNum)
    (h' : powVal v' k = .ok V') : ∃ V, powVal v k = .ok V ∧ Incl V V' ∧ Valid V ∧ V.isNum = V'.isNum := by
  obtain ⟨V, hV, hk, hs, ⟨x2, m2, e2⟩, hlo⟩ := powVal_spec v k hv
  obtain ⟨hk', hs'⟩ := powVal_ok (valid_of_incl hv iv) h'
  refine ⟨V, hV, ⟨?_, e2 ▸ (hs' x2 (mem_of_incl iv m2)).2⟩, valid_of_mem (hs _ (mem_lo hv)), by rw [hk, hk', kv]⟩
  by_cases exc : k = 0 ∧ v.isNum = false ∧ v.lo ≤ 0 ∧ 0 ≤ v.hi
  · -- both operands are intervals containing zero, both results are `[0, 1]`
    obtain ⟨rfl, kf, h1, h2⟩ := exc
    cases v with
    | num c => cases kf
    | ivl a b =>
      cases v' with
      | num c' => cases kv
      | ivl a' b' =>
        rw [powVal_zero_straddle (a := a) (b := b) h1 h2] at hV
        rw [powVal_zero_straddle (a := a') (b := b') (le_trans iv.1 h1) (le_trans h2 iv.2)] at h'
        cases hV; cases h'
        exact le_refl _
  · obtain ⟨x1, m1, e1⟩ := hlo fun hk0 kf hz => exc ⟨hk0, kf, hz⟩
    exact e1 ▸ (hs' x1 (mem_of_incl iv m1)).1

theorem powVal_degenerate (v V : Val) (k : Nat) (hk : 1 ≤ k) (hv : v.lo = v.hi) (h : powVal v k = .ok V) : V.lo = V.hi := by
  obtain ⟨W, hW, _, _, ⟨x2, m2, e2⟩, hlo⟩ := powVal_spec v k (le_of_eq hv)
  cases ok_unique h hW
  obtain ⟨x1, m1, e1⟩ := hlo fun hk0 => by omega
  rw [← e1, ← e2, mem_degenerate hv m1, mem_degenerate hv m2]

/-! ## exp, sqrt -/

theorem dom_mono (f : UFun) {x y : Rat} (hx : f.dom x) (hxy : x ≤ y) : f.dom y := by
  cases f
  · trivial
  · exact le_trans hx hxy

theorem unVal_ends {φ : UFun → Rat → Rat} {f : UFun} {v V : Val} (h : unVal φ f v = .ok V) :
    f.dom v.lo ∧ V.isNum = v.isNum ∧ V.lo = φ f v.lo ∧ V.hi = φ f v.hi := by
  cases v with
  | num c =>
    rw [unVal, unPt] at h
    split at h
    · rename_i hd
      cases h
      exact ⟨hd, rfl, rfl, rfl⟩
    · cases h
  | ivl a b =>
    rw [unVal] at h
    split at h
    · rename_i hd
      obtain ⟨rfl, _⟩ := mk_ok h
      exact ⟨hd.1, rfl, rfl, rfl⟩
    · cases h

theorem unVal_total (φ : UFun → Rat → Rat) (hφ : Mono φ) (f : UFun) (v : Val) (hv : Valid v) (hd : f.dom v.lo) :
    ∃ V, unVal φ f v = .ok V := by
  cases v with
  | num c =>
    have hc : unPt φ f c = .ok (φ f c) := if_pos hd
    exact ⟨.num (φ f c), by rw [unVal, hc]; rfl⟩
  | ivl a b => exact ⟨_, (if_pos ⟨hd, dom_mono f hd hv⟩).trans (mk_of_le (hφ f a b hd hv))⟩

theorem unVal_sound (φ : UFun → Rat → Rat) (hφ : Mono φ) (f : UFun) (v V : Val) (x : Rat) (hv : Mem x v)
    (h : unVal φ f v = .ok V) : ∃ z, unPt φ f x = .ok z ∧ Mem z V := by
  obtain ⟨hd, _, e1, e2⟩ := unVal_ends h
  have hx := dom_mono f hd hv.1
  exact ⟨_, if_pos hx, e1 ▸ hφ f _ x hd hv.1, e2 ▸ hφ f x _ hx hv.2⟩

theorem unVal_isotone {φ : UFun → Rat → Rat} (hφ : Mono φ) (f : UFun) {v v' V' : Val} (hv : Valid v) (iv : Incl v v')
    (kv : v.isNum = v'.isNum) (h' : unVal φ f v' = .ok V') :
    ∃ V, unVal φ f v = .ok V ∧ Incl V V' ∧ Valid V ∧ V.isNum = V'.isNum := by
  obtain ⟨hd', k', e1', e2'⟩ := unVal_ends h'
  have hd := dom_mono f hd' iv.1
  obtain ⟨V, hV⟩ := unVal_total φ hφ f v hv hd
  obtain ⟨_, k, e1, e2⟩ := unVal_ends hV
  refine ⟨V, hV, ⟨?_, ?_⟩, ?_, by rw [k, k', kv]⟩
  · rw [e1, e1']
    exact hφ f _ _ hd' iv.1
  · rw [e2, e2']
    exact hφ f _ _ (dom_mono f hd hv) iv.2
  · show V.lo ≤ V.hi
    rw [e1, e2]
    exact hφ f _ _ hd hv

theorem unVal_degenerate (φ : UFun → Rat → Rat) (f : UFun) (v V : Val) (hv : v.lo = v.hi) (h : unVal φ f v = .ok V) :
    V.lo = V.hi := by
  obtain ⟨_, _, e1, e2⟩ := unVal_ends h
  rw [e1, e2, hv]

theorem evalIvl_var_ok {φ : UFun → Rat → Rat} {box : Box} {i : Nat} {V : Val} :
    evalIvl φ box (.var i) = .ok V ↔ ∃ p, box[i]? = some p ∧ V = .ivl p.1 p.2 := by
  rw [evalIvl]
  cases box[i]? with
  | none => exact ⟨fun h => (nomatch h), fun ⟨_, h, _⟩ => (nomatch h)⟩
  | some p => exact ⟨fun h => ⟨p, rfl, (Except.ok.inj h).symm⟩, fun ⟨_, h, e⟩ => by cases h; rw [e]⟩

/-! ## direct evaluation -/

/-- ★ fundamental theorem: whenever interval evaluation over the box returns a value, the function is
defined at every point of the box and its value lies in the returned interval.  Any dimension, any
depth, repeated variables. -/
theorem fundamental (φ : UFun → Rat → Rat) (hφ : Mono φ) (e : Expr) (box : Box) (x : List Rat)
    (hx : InBox x box) (V : Val) (h : evalIvl φ box e = .ok V) :
    ∃ y, evalPt φ x e = .ok y ∧ Mem y V := by
  induction e generalizing V with
  | var i =>
    obtain ⟨p, hp, rfl⟩ := evalIvl_var_ok.mp h
    obtain ⟨v, hv, hm⟩ := forall₂_getElem? hx hp
    exact ⟨v, by rw [evalPt, hv], hm⟩
  | const c => cases h; exact ⟨c, rfl, le_refl c, le_refl c⟩
  | add a b iha ihb | sub a b iha ihb | mul a b iha ihb | div a b iha ihb =>
    obtain ⟨u, hu, h⟩ := bind_ok.mp h
    obtain ⟨v, hv, h⟩ := bind_ok.mp h
    obtain ⟨xa, hxa, ma⟩ := iha u hu
    obtain ⟨xb, hxb, mb⟩ := ihb v hv
    obtain ⟨z, hz, mz⟩ := binVal_sound _ u v V xa xb ma mb h
    exact ⟨z, bind_ok.mpr ⟨xa, hxa, bind_ok.mpr ⟨xb, hxb, hz⟩⟩, mz⟩
  | pow a k iha =>
    obtain ⟨u, hu, h⟩ := bind_ok.mp h
    obtain ⟨xa, hxa, ma⟩ := iha u hu
    exact ⟨xa ^ k, bind_ok.mpr ⟨xa, hxa, rfl⟩, powVal_sound u V k xa ma h⟩
  | un f a iha =>
    obtain ⟨u, hu, h⟩ := bind_ok.mp h
    obtain ⟨xa, hxa, ma⟩ := iha u hu
    obtain ⟨z, hz, mz⟩ := unVal_sound φ hφ f u V xa ma h
    exact ⟨z, bind_ok.mpr ⟨xa, hxa, hz⟩, mz⟩

/-- ★ direct evaluation encloses the true range -/
theorem direct_encloses (φ : UFun → Rat → Rat) (hφ : Mono φ) (e : Expr) (box : Box) (V : Val)
    (h : direct φ e box = .ok V) (x : List Rat) (hx : InBox x box) :
    ∃ y, evalPt φ x e = .ok y ∧ V.lo ≤ y ∧ y ≤ V.hi :=
  fundamental φ hφ e box x hx V h

example : direct (fun _ x => x) (.sub (.mul (.var 0) (.var 1)) (.var 0)) [(-1, 2), (3, 5)] = .ok (.ivl (-7) 11) := by
  decide +kernel

def ValidBox (box : Box) : Prop := ∀ p ∈ box, p.1 ≤ p.2

def SubBox (t box : Box) : Prop := List.Forall₂ (fun q p => p.1 ≤ q.1 ∧ q.1 ≤ q.2 ∧ q.2 ≤ p.2) t box

/-- ★ inclusion isotonicity of direct evaluation, unconditionally: whenever evaluation over a box returns
a value, evaluation over every sub-box returns a value too, and it is contained in the former.
Any dimension, any depth, repeated variables, `+ − × ÷`, natural powers, exp, sqrt. -/
theorem direct_isotone (φ : UFun → Rat → Rat) (hφ : Mono φ) (e : Expr) (t box : Box) (hs : SubBox t box)
    (V' : Val) (h' : evalIvl φ box e = .ok V') :
    ∃ V, evalIvl φ t e = .ok V ∧ Incl V V' ∧ Valid V ∧ V.isNum = V'.isNum := by
  induction e generalizing V' with
  | var i =>
    obtain ⟨p, hp, rfl⟩ := evalIvl_var_ok.mp h'
    obtain ⟨q, hq, h1, h2, h3⟩ := forall₂_getElem? hs hp
    exact ⟨.ivl q.1 q.2, evalIvl_var_ok.mpr ⟨q, hq, rfl⟩, ⟨h1, h3⟩, h2, rfl⟩
  | const c => cases h'; exact ⟨.num c, rfl, ⟨le_refl c, le_refl c⟩, le_refl c, rfl⟩
  | add a b iha ihb | sub a b iha ihb | mul a b iha ihb | div a b iha ihb =>
    obtain ⟨u', hu', h'⟩ := bind_ok.mp h'
    obtain ⟨v', hv', h'⟩ := bind_ok.mp h'
    obtain ⟨u, hu, iu, vu, ku⟩ := iha u' hu'
    obtain ⟨v, hv, iv, vv, kv⟩ := ihb v' hv'
    obtain ⟨V, hV, r⟩ := binVal_isotone _ vu vv iu iv ku kv h'
    exact ⟨V, bind_ok.mpr ⟨u, hu, bind_ok.mpr ⟨v, hv, hV⟩⟩, r⟩
  | pow a k iha =>
    obtain ⟨u', hu', h'⟩ := bind_ok.mp h'
    obtain ⟨u, hu, iu, vu, ku⟩ := iha u' hu'
    obtain ⟨V, hV, r⟩ := powVal_isotone k vu iu ku h'
    exact ⟨V, bind_ok.mpr ⟨u, hu, hV⟩, r⟩
  | un f a iha =>
    obtain ⟨u', hu', h'⟩ := bind_ok.mp h'
    obtain ⟨u, hu, iu, vu, ku⟩ := iha u' hu'
    obtain ⟨V, hV, r⟩ := unVal_isotone hφ f vu iu ku h'
    exact ⟨V, bind_ok.mpr ⟨u, hu, hV⟩, r⟩

theorem direct_incl_of_ok (φ : UFun → Rat → Rat) (hφ : Mono φ) (e : Expr) (t box : Box) (hs : SubBox t box)
    (V V' : Val) (h : evalIvl φ t e = .ok V) (h' : evalIvl φ box e = .ok V') :
    Incl V V' ∧ Valid V ∧ V.isNum = V'.isNum := by
  obtain ⟨W, hW, r⟩ := direct_isotone φ hφ e t box hs V' h'
  cases ok_unique h hW
  exact r

/-- the full isotonicity statement (proved below: `direct_isotone_statement`) -/
def DirectIsotoneStatement : Prop :=
  ∀ (φ : UFun → Rat → Rat), Mono φ → ∀ (e : Expr) (t box : Box), SubBox t box → ∀ V', evalIvl φ box e = .ok V' →
    ∃ V, evalIvl φ t e = .ok V ∧ Incl V V'

theorem direct_isotone_statement : DirectIsotoneStatement := by
  intro φ hφ e t box hs V' h'
  obtain ⟨V, h, i, _⟩ := direct_isotone φ hφ e t box hs V' h'
  exact ⟨V, h, i⟩

/-- every literal exponent is at least 1 (`X ** 0` is the one operation that widens a point: `Interval(0,0) ** 0 = [0, 1]`) -/
def PosPow : Expr → Prop
  | .var _ => True
  | .const _ => True
  | .add a b => PosPow a ∧ PosPow b
  | .sub a b => PosPow a ∧ PosPow b
  | .mul a b => PosPow a ∧ PosPow b
  | .div a b => PosPow a ∧ PosPow b
  | .pow a k => 1 ≤ k ∧ PosPow a
  | .un _ a => PosPow a

/-- ★ direct evaluation over a zero-width box returns a zero-width value -/
theorem evalIvl_degenerate (φ : UFun → Rat → Rat) (e : Expr) (hp : PosPow e) (box : Box) (hd : ∀ p ∈ box, p.1 = p.2)
    (V : Val) (h : evalIvl φ box e = .ok V) : V.lo = V.hi := by
  induction e generalizing V with
  | var i =>
    obtain ⟨p, hpi, rfl⟩ := evalIvl_var_ok.mp h
    exact hd p (List.mem_of_getElem? hpi)
  | const c => cases h; rfl
  | add a b iha ihb | sub a b iha ihb | mul a b iha ihb | div a b iha ihb =>
    obtain ⟨u, hu, h⟩ := bind_ok.mp h
    obtain ⟨v, hv, h⟩ := bind_ok.mp h
    exact binVal_degenerate _ u v V (iha hp.1 u hu) (ihb hp.2 v hv) h
  | pow a k iha =>
    obtain ⟨u, hu, h⟩ := bind_ok.mp h
    exact powVal_degenerate u V k hp.1 (iha hp.2 u hu) h
  | un f a iha =>
    obtain ⟨u, hu, h⟩ := bind_ok.mp h
    exact unVal_degenerate φ f u V (iha hp u hu) h

/-! ## tiles and corners, coordinate by coordinate -/

theorem mem_tiles {box : Box} {n : Nat} {t : Box} :
    t ∈ tiles box n ↔ List.Forall₂ (fun q p => q ∈ tiles1 p n) t box :=
  mem_prodL_map _ box t

theorem mem_corners {box : Box} {c : List Rat} :
    c ∈ corners box ↔ List.Forall₂ (fun a p => a = p.1 ∨ a = p.2) c box := by
  rw [corners, mem_prodL_map]
  simp only [List.mem_cons, List.not_mem_nil, or_false]

/-- choosing a tile of each side gives a tile of the box -/
theorem exists_tile {α : Type} {P B : α → Rat × Rat → Prop} {x : List α} {box : Box} (n : Nat)
    (h : List.Forall₂ P x box) (step : ∀ a p, p ∈ box → P a p → ∃ q ∈ tiles1 p n, B a q) :
    ∃ t ∈ tiles box n, List.Forall₂ B x t := by
  induction h with
  | nil => exact ⟨[], mem_tiles.mpr .nil, .nil⟩
  | cons hap _ ih =>
    obtain ⟨q, hq, hb⟩ := step _ _ List.mem_cons_self hap
    obtain ⟨t, ht, hxt⟩ := ih fun a p hp => step a p (List.mem_cons_of_mem _ hp)
    exact ⟨q :: t, mem_tiles.mpr (.cons hq (mem_tiles.mp ht)), .cons hb hxt⟩

/-- ★ the tiles cover the box, for every dimension and every subdivision count -/
theorem tiles_cover (box : Box) (n : Nat) (x : List Rat) (hx : InBox x box) :
    ∃ t ∈ tiles box n, InBox x t :=
  exists_tile n hx fun a p _ h => tiles1_cover p n a h.1 h.2

/-- ★ every tile is a sub-box of the box (so the tiles reconstitute to nothing larger than the box) -/
theorem tiles_within (box : Box) (n : Nat) (hv : ValidBox box) (t : Box) (ht : t ∈ tiles box n) : SubBox t box :=
  forall₂_imp_mem (mem_tiles.mp ht) fun q p _ hp hq => tiles1_within p n (hv p hp) q hq

theorem inBox_of_sub {x : List Rat} {t box : Box} (hx : InBox x t) (hs : SubBox t box) : InBox x box := by
  induction hx generalizing box with
  | nil => cases hs; exact .nil
  | cons hab _ ih =>
    cases hs with
    | cons h1 h2 => exact .cons ⟨le_trans h1.1 hab.1, le_trans hab.2 h1.2.2⟩ (ih h2)

theorem validBox_of_sub {t box : Box} (hs : SubBox t box) : ValidBox t := by
  intro q hq
  obtain ⟨p, _, h⟩ := forall₂_left hs hq
  exact h.2.1

/-- the tile containing the lower corner starts at the lower corner, the one containing the upper corner
ends at it: together with `tiles_within`, the tiles reconstitute exactly to the box -/
theorem tiles_reach_ends (box : Box) (n : Nat) :
    (∃ t ∈ tiles box n, t.map Prod.fst = box.map Prod.fst) ∧ (∃ t ∈ tiles box n, t.map Prod.snd = box.map Prod.snd) := by
  have hrefl : List.Forall₂ Eq box box := List.forall₂_refl box
  constructor
  · obtain ⟨t, ht, he⟩ := exists_tile (B := fun p q => q.1 = p.1) n hrefl fun p _ _ h => h ▸ (tiles1_ends p n).1
    exact ⟨t, ht, map_eq_map_iff_forall₂.mpr he.flip⟩
  · obtain ⟨t, ht, he⟩ := exists_tile (B := fun p q => q.2 = p.2) n hrefl fun p _ _ h => h ▸ (tiles1_ends p n).2
    exact ⟨t, ht, map_eq_map_iff_forall₂.mpr he.flip⟩

example : tiles [(-1, 2), (3, 5)] 2 = [[(-1, 1/2), (3, 4)], [(-1, 1/2), (4, 5)], [(1/2, 2), (3, 4)], [(1/2, 2), (4, 5)]] := by
  decide +kernel

theorem corner_inBox (box : Box) (hv : ValidBox box) (c : List Rat) (hc : c ∈ corners box) : InBox c box :=
  forall₂_imp_mem (mem_corners.mp hc) fun a p _ hp h => by
    rcases h with rfl | rfl
    · exact ⟨le_refl _, hv p hp⟩
    · exact ⟨hv p hp, le_refl _⟩

theorem corner_in_some_tile (box : Box) (n : Nat) (c : List Rat) (hc : c ∈ corners box) :
    ∃ t ∈ tiles box n, c ∈ corners t := by
  obtain ⟨t, ht, hct⟩ := exists_tile (B := fun a q => a = q.1 ∨ a = q.2) n (mem_corners.mp hc) fun a p _ h => by
    rcases h with rfl | rfl
    · obtain ⟨q, hq, e⟩ := (tiles1_ends p n).1
      exact ⟨q, hq, Or.inl e.symm⟩
    · obtain ⟨q, hq, e⟩ := (tiles1_ends p n).2
      exact ⟨q, hq, Or.inr e.symm⟩
  exact ⟨t, ht, mem_corners.mpr hct⟩

theorem tiles_degenerate (box : Box) (n : Nat) (hd : ∀ p ∈ box, p.1 = p.2) (t : Box) (ht : t ∈ tiles box n) : t = box := by
  rw [← List.forall₂_eq_eq_eq]
  refine forall₂_imp_mem (mem_tiles.mp ht) fun q p _ hp hq => ?_
  obtain ⟨h1, h2, h3⟩ := tiles1_within p n (le_of_eq (hd p hp)) q hq
  have e := hd p hp
  exact Prod.ext (le_antisymm (by linarith) h1) (le_antisymm h3 (by linarith))

/-- ★ every tile of the `n·m` tiling is a sub-box of a tile of the `n` tiling -/
theorem tiles_refine (box : Box) (hv : ValidBox box) (n m : Nat) (hm : 1 ≤ m) (t : Box) (ht : t ∈ tiles box (n * m)) :
    ∃ t' ∈ tiles box n, SubBox t t' :=
  exists_tile n (mem_tiles.mp ht) fun q p hp hq => tiles1_refine p (hv p hp) n m hm q hq

/-! ## tiles do not overlap -/

/-- the index form of `tiles1_pairwise` -/
theorem tiles1_ordered (p : Rat × Rat) (n : Nat) (hp : p.1 ≤ p.2) (i j : Nat) (hij : i < j) (hj : j < n) :
    ∃ s t, (tiles1 p n)[i]? = some s ∧ (tiles1 p n)[j]? = some t ∧ s.2 ≤ t.1 := by
  have hlen : (tiles1 p n).length = n := by
    rw [tiles1_of_one_lt p (by omega), List.length_map, List.length_range]
  exact ⟨_, _, List.getElem?_eq_getElem (by omega), List.getElem?_eq_getElem (by omega),
    List.pairwise_iff_getElem.mp (tiles1_pairwise p n hp) i j (by omega) (by omega) hij⟩

/-- the non-overlap statement in dimension `d` (proved below: `tiles_interior_disjoint`): two tiles at different
positions of the tiling are separated along some coordinate -/
def TilesInteriorDisjointStatement : Prop :=
  ∀ (box : Box) (n : Nat), ValidBox box → ∀ (i j : Nat), i < j → ∀ (s t : Box), (tiles box n)[i]? = some s → (tiles box n)[j]? = some t →
    ∃ (k : Nat) (q q' : Rat × Rat), s[k]? = some q ∧ t[k]? = some q' ∧ (q.2 ≤ q'.1 ∨ q'.2 ≤ q.1)

example : ∃ s t, (tiles1 (0, 3) 3)[0]? = some s ∧ (tiles1 (0, 3) 3)[2]? = some t ∧ s.2 ≤ t.1 :=
  tiles1_ordered (0, 3) 3 (by norm_num) 0 2 (by omega) (by omega)

/-- ★ the tiles are pairwise interior-disjoint, for every dimension and every subdivision count: two tiles at
different positions of the tiling are separated along some coordinate (one ends there no later than the other
starts), so no point lies in the interior of both -/
theorem tiles_interior_disjoint : TilesInteriorDisjointStatement := by
  intro box n hv i j hij s t hs ht
  have hpw : (tiles box n).Pairwise (SepAt (fun q q' : Rat × Rat => q.2 ≤ q'.1)) := by
    refine pairwise_prodL _ _ fun l hl => ?_
    obtain ⟨p, hp, rfl⟩ := List.mem_map.mp hl
    exact tiles1_pairwise p n (hv p hp)
  obtain ⟨hi, rfl⟩ := List.getElem?_eq_some_iff.mp hs
  obtain ⟨hj, rfl⟩ := List.getElem?_eq_some_iff.mp ht
  obtain ⟨k, a, b, ha, hb, hab⟩ := List.pairwise_iff_getElem.mp hpw i j hi hj hij
  exact ⟨k, a, b, ha, hb, Or.inl hab⟩

theorem tiles_no_common_interior (box : Box) (n : Nat) (hv : ValidBox box) (i j : Nat) (hij : i < j) (s t : Box)
    (hs : (tiles box n)[i]? = some s) (ht : (tiles box n)[j]? = some t) (x : List Rat)
    (hxs : List.Forall₂ (fun xi q => q.1 < xi ∧ xi < q.2) x s) (hxt : List.Forall₂ (fun xi q => q.1 < xi ∧ xi < q.2) x t) :
    False := by
  obtain ⟨k, a, b, ha, hb, hab⟩ := tiles_interior_disjoint box n hv i j hij s t hs ht
  obtain ⟨x1, e1, l1, u1⟩ := forall₂_getElem? hxs ha
  obtain ⟨x2, e2, l2, u2⟩ := forall₂_getElem? hxt hb
  cases Option.some.inj (e1.symm.trans e2)
  rcases hab with h | h
  · exact absurd (lt_trans l2 u1) (not_lt.mpr h)
  · exact absurd (lt_trans l1 u2) (not_lt.mpr h)

/-! ## hulls: the vertex method and subinterval reconstitution -/

theorem mapM_hull {α β : Type} {f : α → Except Err β} {xs : List α} {ys : List β} (lo hi : β → Rat) {V : Val}
    (hys : xs.mapM f = .ok ys) (h : hullOf (ys.map lo) (ys.map hi) = .ok V) :
    (∀ x ∈ xs, ∃ y, f x = .ok y ∧ V.lo ≤ lo y ∧ hi y ≤ V.hi) ∧
    (∃ x ∈ xs, ∃ y, f x = .ok y ∧ lo y = V.lo) ∧ (∃ x ∈ xs, ∃ y, f x = .ok y ∧ hi y = V.hi) := by
  have hall := mapM_ok hys
  obtain ⟨⟨a1, a2⟩, ⟨b1, b2⟩⟩ := hullOf_ok h
  obtain ⟨y1, hy1, e1⟩ := List.mem_map.mp a2
  obtain ⟨y2, hy2, e2⟩ := List.mem_map.mp b2
  obtain ⟨x1, hx1, f1⟩ := forall₂_right hall hy1
  obtain ⟨x2, hx2, f2⟩ := forall₂_right hall hy2
  refine ⟨fun x hx => ?_, ⟨x1, hx1, y1, f1, e1⟩, ⟨x2, hx2, y2, f2, e2⟩⟩
  obtain ⟨y, hy, fy⟩ := forall₂_left hall hx
  exact ⟨y, fy, a1 _ (List.mem_map_of_mem hy), b1 _ (List.mem_map_of_mem hy)⟩

/-- ★ the vertex method returns exactly the minimum and the maximum of the function over the `2^d`
corners (whatever their enumeration order): both ends are values at corners and every corner value
lies between them -/
theorem endpoints_minmax_corners (φ : UFun → Rat → Rat) (e : Expr) (box : Box) (V : Val)
    (h : endpoints φ e box = .ok V) :
    (∃ c ∈ corners box, evalPt φ c e = .ok V.lo) ∧ (∃ c ∈ corners box, evalPt φ c e = .ok V.hi) ∧
    (∀ c ∈ corners box, ∃ y, evalPt φ c e = .ok y ∧ V.lo ≤ y ∧ y ≤ V.hi) := by
  obtain ⟨ys, hys, h⟩ := bind_ok.mp h
  have h' : hullOf (ys.map id) (ys.map id) = .ok V := by rw [List.map_id]; exact h
  obtain ⟨hall, ⟨c1, hc1, y1, f1, e1⟩, ⟨c2, hc2, y2, f2, e2⟩⟩ := mapM_hull id id hys h'
  exact ⟨⟨c1, hc1, e1 ▸ f1⟩, ⟨c2, hc2, e2 ▸ f2⟩, hall⟩

/-- ★ hence the vertex result lies inside the true range: both ends are values of the function at
points of the box -/
theorem endpoints_inside_range (φ : UFun → Rat → Rat) (e : Expr) (box : Box) (hv : ValidBox box) (V : Val)
    (h : endpoints φ e box = .ok V) :
    (∃ x, InBox x box ∧ evalPt φ x e = .ok V.lo) ∧ (∃ x, InBox x box ∧ evalPt φ x e = .ok V.hi) := by
  obtain ⟨⟨c1, h1, e1⟩, ⟨c2, h2, e2⟩, _⟩ := endpoints_minmax_corners φ e box V h
  exact ⟨⟨c1, corner_inBox box hv c1 h1, e1⟩, ⟨c2, corner_inBox box hv c2 h2, e2⟩⟩

example : endpoints (fun _ x => x) (.sub (.mul (.var 0) (.var 1)) (.var 0)) [(-1, 2), (3, 5)] = .ok (.ivl (-4) 8) := by
  decide +kernel

/-- what `subinterval_method` computes on one tile -/
def perTile (φ : UFun → Rat → Rat) (e : Expr) : Style → Box → Except Err Val
  | .direct => direct φ e
  | .endpoints => endpoints φ e

theorem subinterval_eq (φ : UFun → Rat → Rat) (e : Expr) (box : Box) (st : Style) (n : Nat) :
    subinterval φ e box (some st) (some n) = (tiles box n).mapM (perTile φ e st) >>= reconstitute := by
  cases st <;> rfl

theorem subinterval_spec {φ : UFun → Rat → Rat} {e : Expr} {box : Box} {st : Style} {n : Nat} {V : Val}
    (h : subinterval φ e box (some st) (some n) = .ok V) :
    (∀ t ∈ tiles box n, ∃ r, perTile φ e st t = .ok r ∧ V.lo ≤ r.lo ∧ r.hi ≤ V.hi) ∧
    (∃ t ∈ tiles box n, ∃ r, perTile φ e st t = .ok r ∧ r.lo = V.lo) ∧
    (∃ t ∈ tiles box n, ∃ r, perTile φ e st t = .ok r ∧ r.hi = V.hi) := by
  rw [subinterval_eq] at h
  obtain ⟨rs, hrs, h⟩ := bind_ok.mp h
  exact mapM_hull Val.lo Val.hi hrs (reconstitute_eq rs ▸ h)

/-- ★ subinterval reconstitution with direct evaluation encloses the true range -/
theorem subdirect_encloses (φ : UFun → Rat → Rat) (hφ : Mono φ) (e : Expr) (box : Box) (n : Nat) (V : Val)
    (h : subinterval φ e box (some .direct) (some n) = .ok V) (x : List Rat) (hx : InBox x box) :
    ∃ y, evalPt φ x e = .ok y ∧ V.lo ≤ y ∧ y ≤ V.hi := by
  obtain ⟨t, ht, hxt⟩ := tiles_cover box n x hx
  obtain ⟨r, hr, h1, h2⟩ := (subinterval_spec h).1 t ht
  obtain ⟨y, hy, m1, m2⟩ := fundamental φ hφ e t x hxt r hr
  exact ⟨y, hy, le_trans h1 m1, le_trans m2 h2⟩

/-- ★ subinterval reconstitution with direct evaluation is contained in the un-subdivided direct result -/
theorem subdirect_within_direct (φ : UFun → Rat → Rat) (hφ : Mono φ) (e : Expr) (box : Box) (hv : ValidBox box) (n : Nat)
    (V D : Val) (h : subinterval φ e box (some .direct) (some n) = .ok V) (hD : direct φ e box = .ok D) :
    D.lo ≤ V.lo ∧ V.hi ≤ D.hi := by
  obtain ⟨_, ⟨t1, ht1, r1, hr1, e1⟩, ⟨t2, ht2, r2, hr2, e2⟩⟩ := subinterval_spec h
  obtain ⟨i1, _⟩ := direct_incl_of_ok φ hφ e t1 box (tiles_within box n hv t1 ht1) r1 D hr1 hD
  obtain ⟨i2, _⟩ := direct_incl_of_ok φ hφ e t2 box (tiles_within box n hv t2 ht2) r2 D hr2 hD
  exact ⟨e1 ▸ i1.1, e2 ▸ i2.2⟩

example : subinterval (fun _ x => x) (.sub (.mul (.var 0) (.var 1)) (.var 0)) [(-1, 2), (3, 5)] (some .direct) (some 2)
    = .ok (.ivl (-11/2) (19/2)) := by decide +kernel

/-- consequence: if direct evaluation over the box returns a value, subinterval reconstitution with direct
evaluation returns a value for every subdivision count (no tile can raise) -/
theorem subdirect_total (φ : UFun → Rat → Rat) (hφ : Mono φ) (e : Expr) (box : Box) (hv : ValidBox box) (n : Nat)
    (D : Val) (hD : direct φ e box = .ok D) : ∃ V, subinterval φ e box (some .direct) (some n) = .ok V := by
  obtain ⟨rs, hrs⟩ := forall₂_choose (R := fun t r => direct φ e t = .ok r ∧ Valid r) fun t ht =>
    (direct_isotone φ hφ e t box (tiles_within box n hv t ht) D hD).imp fun _ h => ⟨h.1, h.2.2.1⟩
  -- the pieces are valid and there is at least one, so `reconstitute` does not raise
  obtain ⟨t0, ht0, _⟩ := (tiles_reach_ends box n).1
  obtain ⟨r0, hr0, _, vr⟩ := forall₂_left hrs ht0
  obtain ⟨V, hV⟩ := hullOf_total (List.mem_map_of_mem (f := Val.lo) hr0) (List.mem_map_of_mem (f := Val.hi) hr0) vr
  exact ⟨V, (subinterval_eq φ e box .direct n).trans
    (bind_ok.mpr ⟨rs, (mapM_ok_iff _ _ _).mpr (hrs.imp fun _ _ h => h.1), (reconstitute_eq rs).trans hV⟩)⟩

/-- ★ subinterval reconstitution with vertices lies between the vertex result and the true range:
it contains the vertex result of the un-subdivided box, and both its ends are values of the function
at points of the box -/
theorem subendpoints_between (φ : UFun → Rat → Rat) (e : Expr) (box : Box) (hv : ValidBox box) (n : Nat) (V : Val)
    (h : subinterval φ e box (some .endpoints) (some n) = .ok V) :
    (∀ E, endpoints φ e box = .ok E → V.lo ≤ E.lo ∧ E.hi ≤ V.hi) ∧
    (∃ x, InBox x box ∧ evalPt φ x e = .ok V.lo) ∧ (∃ x, InBox x box ∧ evalPt φ x e = .ok V.hi) := by
  obtain ⟨hall, ⟨t1, ht1, r1, hr1, e1⟩, ⟨t2, ht2, r2, hr2, e2⟩⟩ := subinterval_spec h
  have hs1 := tiles_within box n hv t1 ht1
  have hs2 := tiles_within box n hv t2 ht2
  obtain ⟨⟨x1, hx1, ex1⟩, _⟩ := endpoints_inside_range φ e t1 (validBox_of_sub hs1) r1 hr1
  obtain ⟨_, ⟨x2, hx2, ex2⟩⟩ := endpoints_inside_range φ e t2 (validBox_of_sub hs2) r2 hr2
  refine ⟨fun E hE => ?_, ⟨x1, inBox_of_sub hx1 hs1, e1 ▸ ex1⟩, ⟨x2, inBox_of_sub hx2 hs2, e2 ▸ ex2⟩⟩
  -- each end of `E` is the value at a corner of the box, which is a corner of some tile
  have key : ∀ c ∈ corners box, ∀ y, evalPt φ c e = .ok y → V.lo ≤ y ∧ y ≤ V.hi := by
    intro c hc y hy
    obtain ⟨t, ht, hct⟩ := corner_in_some_tile box n c hc
    obtain ⟨r, hr, h1, h2⟩ := hall t ht
    obtain ⟨y', hy', m1, m2⟩ := (endpoints_minmax_corners φ e t r hr).2.2 c hct
    cases ok_unique hy hy'
    exact ⟨le_trans h1 m1, le_trans m2 h2⟩
  obtain ⟨⟨c1, hc1, ec1⟩, ⟨c2, hc2, ec2⟩, _⟩ := endpoints_minmax_corners φ e box E hE
  exact ⟨(key c1 hc1 _ ec1).1, (key c2 hc2 _ ec2).2⟩

example : subinterval (fun _ x => x) (.sub (.mul (.var 0) (.var 0)) (.var 0)) [(-1, 2)] (some .endpoints) (some 3)
    = .ok (.ivl 0 2) := by decide +kernel

/-- ★ refining the subdivision can only tighten subinterval reconstitution with direct evaluation:
the `n·m` result is contained in the `n` result (and both contain the range, `subdirect_encloses`) -/
theorem subdirect_refines (φ : UFun → Rat → Rat) (hφ : Mono φ) (e : Expr) (box : Box) (hv : ValidBox box) (n m : Nat)
    (hm : 1 ≤ m) (V1 V2 : Val) (h1 : subinterval φ e box (some .direct) (some n) = .ok V1)
    (h2 : subinterval φ e box (some .direct) (some (n * m)) = .ok V2) : V1.lo ≤ V2.lo ∧ V2.hi ≤ V1.hi := by
  obtain ⟨hall, _, _⟩ := subinterval_spec h1
  obtain ⟨_, ⟨ta, hta, ra, hra, ea⟩, ⟨tb, htb, rb, hrb, eb⟩⟩ := subinterval_spec h2
  -- the result on a fine tile lies inside the result on the coarse tile that contains it
  have key : ∀ t ∈ tiles box (n * m), ∀ r, direct φ e t = .ok r → V1.lo ≤ r.lo ∧ r.hi ≤ V1.hi := by
    intro t ht r hr
    obtain ⟨t', ht', hsub⟩ := tiles_refine box hv n m hm t ht
    obtain ⟨r', hr', h1, h2⟩ := hall t' ht'
    obtain ⟨i, _⟩ := direct_incl_of_ok φ hφ e t t' hsub r r' hr hr'
    exact ⟨le_trans h1 i.1, le_trans i.2 h2⟩
  exact ⟨ea ▸ (key ta hta ra hra).1, eb ▸ (key tb htb rb hrb).2⟩

/-! ## functions monotone in each argument -/

/-- `f` is monotone (non-decreasing or non-increasing) in each coordinate over the box, the other
coordinates ranging over the box -/
def CoordMono : (List Rat → Rat) → Box → Prop
  | _, [] => True
  | f, p :: ps =>
    ((∀ s t xs, p.1 ≤ s → s ≤ t → t ≤ p.2 → InBox xs ps → f (s :: xs) ≤ f (t :: xs)) ∨
     (∀ s t xs, p.1 ≤ s → s ≤ t → t ≤ p.2 → InBox xs ps → f (t :: xs) ≤ f (s :: xs))) ∧
    CoordMono (fun xs => f (p.1 :: xs)) ps ∧ CoordMono (fun xs => f (p.2 :: xs)) ps

theorem mono_corners (f : List Rat → Rat) (box : Box) (hm : CoordMono f box) (x : List Rat) (hx : InBox x box) :
    (∃ c ∈ corners box, f c ≤ f x) ∧ (∃ c ∈ corners box, f x ≤ f c) := by
  induction hx generalizing f with
  | nil => exact ⟨⟨[], mem_corners.mpr .nil, le_refl _⟩, ⟨[], mem_corners.mpr .nil, le_refl _⟩⟩
  | @cons a p xs ps hab hrest ih =>
    obtain ⟨hdir, hlo, hhi⟩ := hm
    obtain ⟨⟨cl1, hcl1, el1⟩, ⟨cl2, hcl2, el2⟩⟩ := ih (fun xs => f (p.1 :: xs)) hlo
    obtain ⟨⟨ch1, hch1, eh1⟩, ⟨ch2, hch2, eh2⟩⟩ := ih (fun xs => f (p.2 :: xs)) hhi
    have memlo : ∀ c ∈ corners ps, (p.1 :: c) ∈ corners (p :: ps) :=
      fun c hc => mem_corners.mpr (.cons (Or.inl rfl) (mem_corners.mp hc))
    have memhi : ∀ c ∈ corners ps, (p.2 :: c) ∈ corners (p :: ps) :=
      fun c hc => mem_corners.mpr (.cons (Or.inr rfl) (mem_corners.mp hc))
    rcases hdir with hinc | hdec
    · exact ⟨⟨_, memlo cl1 hcl1, le_trans el1 (hinc p.1 a xs (le_refl _) hab.1 hab.2 hrest)⟩,
             ⟨_, memhi ch2 hch2, le_trans (hinc a p.2 xs hab.1 hab.2 (le_refl _) hrest) eh2⟩⟩
    · exact ⟨⟨_, memhi ch1 hch1, le_trans eh1 (hdec a p.2 xs hab.1 hab.2 (le_refl _) hrest)⟩,
             ⟨_, memlo cl2 hcl2, le_trans (hdec p.1 a xs (le_refl _) hab.1 hab.2 hrest) el2⟩⟩

/-- ★ for a response function that is monotone in each argument over the box, the vertex result is the
true range: every value of the function on the box lies in it (and its ends are attained,
`endpoints_inside_range`) -/
theorem monotone_exact (φ : UFun → Rat → Rat) (e : Expr) (box : Box) (f : List Rat → Rat)
    (hf : ∀ x, InBox x box → evalPt φ x e = .ok (f x)) (hv : ValidBox box) (hm : CoordMono f box) (V : Val)
    (h : endpoints φ e box = .ok V) (x : List Rat) (hx : InBox x box) : V.lo ≤ f x ∧ f x ≤ V.hi := by
  obtain ⟨_, _, hall⟩ := endpoints_minmax_corners φ e box V h
  obtain ⟨⟨c1, hc1, e1⟩, ⟨c2, hc2, e2⟩⟩ := mono_corners f box hm x hx
  obtain ⟨y1, hy1, m1, _⟩ := hall c1 hc1
  obtain ⟨y2, hy2, _, m2⟩ := hall c2 hc2
  cases ok_unique hy1 (hf c1 (corner_inBox box hv c1 hc1))
  cases ok_unique hy2 (hf c2 (corner_inBox box hv c2 hc2))
  exact ⟨le_trans m1 e1, le_trans e2 m2⟩

/-- non-vacuity: `x0 - x1` is increasing in `x0` and decreasing in `x1` on every box -/
example (box : Box) (p q : Rat × Rat) (hb : box = [p, q]) : CoordMono (fun x => x.getD 0 0 - x.getD 1 0) box := by
  subst hb
  refine ⟨Or.inl ?_, ⟨Or.inr ?_, trivial, trivial⟩, ⟨Or.inr ?_, trivial, trivial⟩⟩
  · intro s t xs _ hst _ _; cases xs <;> simp <;> linarith
  · intro s t xs _ hst _ _; simp; linarith
  · intro s t xs _ hst _ _; simp; linarith

/-! ## the whole chain of the property in one statement -/

/-- ★ vertex ⊆ subinterval/vertex ⊆ (true range) ⊆ subinterval/direct ⊆ direct, for every expression, box,
dimension and subdivision count: the four results nest, the two inner ones have their ends attained by the
function on the box and the two outer ones contain every value of the function on the box -/
theorem nesting_chain (φ : UFun → Rat → Rat) (hφ : Mono φ) (e : Expr) (box : Box) (hv : ValidBox box) (n : Nat)
    (E SE SD D : Val) (hE : endpoints φ e box = .ok E) (hSE : subinterval φ e box (some .endpoints) (some n) = .ok SE)
    (hSD : subinterval φ e box (some .direct) (some n) = .ok SD) (hD : direct φ e box = .ok D) :
    (SE.lo ≤ E.lo ∧ E.hi ≤ SE.hi) ∧ (SD.lo ≤ SE.lo ∧ SE.hi ≤ SD.hi) ∧ (D.lo ≤ SD.lo ∧ SD.hi ≤ D.hi) ∧
    (∀ x, InBox x box → ∃ y, evalPt φ x e = .ok y ∧ SD.lo ≤ y ∧ y ≤ SD.hi) ∧
    (∃ x, InBox x box ∧ evalPt φ x e = .ok SE.lo) ∧ (∃ x, InBox x box ∧ evalPt φ x e = .ok SE.hi) := by
  obtain ⟨h1, ⟨x1, hx1, e1⟩, ⟨x2, hx2, e2⟩⟩ := subendpoints_between φ e box hv n SE hSE
  have enc := subdirect_encloses φ hφ e box n SD hSD
  refine ⟨h1 E hE, ?_, subdirect_within_direct φ hφ e box hv n SD D hSD hD, enc, ⟨x1, hx1, e1⟩, ⟨x2, hx2, e2⟩⟩
  obtain ⟨y1, hy1, a1, _⟩ := enc x1 hx1
  obtain ⟨y2, hy2, _, b2⟩ := enc x2 hx2
  cases ok_unique hy1 e1
  cases ok_unique hy2 e2
  exact ⟨a1, b2⟩

example : ValidBox [(-1, 2), (3, 5)] := by
  intro p hp; simp at hp; rcases hp with rfl | rfl <;> norm_num

end Pun.B2B
