import Pun.Lemmas.HierScale
import Pun.Props.C01
/-!
# C07 — uncertain-number hierarchy: degenerate operands reduce to the simpler arithmetic

All statements are about the functions the model driver executes (`Pun.Hier.evalOp`, `method`,
`spec`, `convert`, built on `Pun.PBox.binop`) for ANY number of steps `n > 0` and all rationals.

* `embed_op` (+ `embed_op_f/p/o/i`): two embedded intervals combined by ANY of the four operations
  under ANY of the four dependencies give the constant p-box of the C01 interval result
  (`Pun.Arith.binop`), every sign case — including the Frechet product of zero-straddling
  intervals (naive ∩ Balch);  `ivl_expr_embeds` states it for the Python expression
  `Interval op Interval` against the converted-first expression;
* `embed_real`, `real_expr_embeds`: point operands give the real-number result;
* `ivl_dist_shift`, `dist_ivl_shift`, `ivl_dist_scale`: interval ± precise distribution is the quantile
  list shifted by the interval, interval × positive distribution is it scaled;
* `evalOp_route`: the dispatch graph as a finite table over the 5 × 5 kinds; `evalOp_fwd`, `evalOp_refl`,
  `method_ivl`, `method_high` say what each route executes;
* `fwd_agrees`, `fwd_num_agrees`, `refl_agrees`: the mixed expression equals the expression with every operand
  converted first — p-box-like left operand against an interval or p-box-like operand, against a Python number
  (`pbox_number_ops`), and a number or interval on the left (reflected operators).  The full statement is
  `C07RouteStatement`; `route_agrees_partial` is the part of it proved in this file;
  `Pun.Props.C07Route` assembles every cell (`route_agrees`) and says when the converted-first expression
  answers (`spec_total`, `route_partial`).
-/
namespace Pun.Hier
open Pun Pun.PBox

/-! ## the C01 interval model on two scalar intervals, with the corner hull of `Pun.PBox` -/

theorem arith_mul (a b c d : Rat) (hab : a ≤ b) (hcd : c ≤ d) :
    Arith.binop .mul (.I a b) (.I c d) =
      .ok (.I (min4 (a*c) (a*d) (b*c) (b*d)) (max4 (a*c) (a*d) (b*c) (b*d))) := by
  rw [Arith.binop_II_mul a b c d hab hcd, ← min4_eq_arith, ← max4_eq_arith]

theorem arith_div (a b c d : Rat) (hab : a ≤ b) (hcd : c ≤ d) (h0 : 0 < c ∨ d < 0) :
    Arith.binop .div (.I a b) (.I c d) =
      .ok (.I (min4 (a*(1/d)) (a*(1/c)) (b*(1/d)) (b*(1/c))) (max4 (a*(1/d)) (a*(1/c)) (b*(1/d)) (b*(1/c)))) := by
  obtain ⟨l, h, e, hs, ⟨x, y, hx1, hx2, hy1, hy2, hlo⟩, ⟨x', y', hx1', hx2', hy1', hy2', hhi⟩⟩ :=
    Arith.binop_II_div a b c d hab hcd h0
  have hy0 : ∀ y, c ≤ y → y ≤ d → (1 / d ≤ 1 / y ∧ 1 / y ≤ 1 / c) := fun y h1 h2 => by
    simp only [one_div]
    exact Arith.inv_mem h0 h1 h2
  -- `[l, h]` contains the four corner products and its endpoints lie in their hull
  have k : ∀ x y, a ≤ x → x ≤ b → c ≤ y → y ≤ d → l ≤ x * (1 / y) ∧ x * (1 / y) ≤ h := by
    intro x y h1 h2 h3 h4
    rw [← div_eq_mul_one_div]
    exact hs x y h1 h2 h3 h4
  have k1 := k a d le_rfl hab hcd le_rfl
  have k2 := k a c le_rfl hab le_rfl hcd
  have k3 := k b d hab le_rfl hcd le_rfl
  have k4 := k b c hab le_rfl le_rfl hcd
  have el : l = min4 (a*(1/d)) (a*(1/c)) (b*(1/d)) (b*(1/c)) := by
    refine le_antisymm (le_min4 k1.1 k2.1 k3.1 k4.1) ?_
    rw [← hlo, div_eq_mul_one_div x y]
    exact (mul_corner_hull a b (1/d) (1/c) x (1/y) hx1 hx2 (hy0 y hy1 hy2).1 (hy0 y hy1 hy2).2).1
  have eh : h = max4 (a*(1/d)) (a*(1/c)) (b*(1/d)) (b*(1/c)) := by
    refine le_antisymm ?_ (max4_le k1.2 k2.2 k3.2 k4.2)
    rw [← hhi, div_eq_mul_one_div x' y']
    exact (mul_corner_hull a b (1/d) (1/c) x' (1/y') hx1' hx2' (hy0 y' hy1' hy2').1 (hy0 y' hy1' hy2').2).2
  rw [e, el, eh]

/-! ## ★ embedded intervals -/

/-- **Interval operands under any dependency give the interval-arithmetic result as a constant
p-box**: whenever the C01 model returns `[lo,hi]` for `[a,b] op [c,d]`, the p-box operation on the
embedded operands returns the embedding of `[lo,hi]` — all four operations, all four dependencies,
every sign. -/
theorem embed_op (n : Nat) (hn : 0 < n) (dep : Dep) (hd : dep ≠ .unknown) (o : Op)
    (a b c d lo hi : Rat) (hab : a ≤ b) (hcd : c ≤ d)
    (h : Arith.binop (toArith o) (.I a b) (.I c d) = .ok (.I lo hi)) :
    binop n o dep (ofIvl n a b) (ofIvl n c d) = .ok (ofIvl n lo hi) := by
  cases o with
  | add =>
    obtain ⟨rfl, rfl⟩ := Arith.Opd.I.inj (Except.ok.inj ((Arith.binop_II_add a b c d hab hcd).symm.trans h))
    exact add_ofIvl n dep hd a b c d hn hab hcd
  | sub =>
    obtain ⟨rfl, rfl⟩ := Arith.Opd.I.inj (Except.ok.inj ((Arith.binop_II_sub a b c d hab hcd).symm.trans h))
    exact sub_ofIvl n dep hd a b c d hn hab hcd
  | mul =>
    obtain ⟨rfl, rfl⟩ := Arith.Opd.I.inj (Except.ok.inj ((arith_mul a b c d hab hcd).symm.trans h))
    exact mul_ofIvl n dep hd a b c d hn hab hcd
  | div =>
    by_cases hz : c ≤ 0 ∧ 0 ≤ d
    · rw [toArith, Arith.binop_II_div_zero a b c d hz] at h; cases h
    · have h0 := Arith.not_straddle_cases hz
      obtain ⟨rfl, rfl⟩ := Arith.Opd.I.inj (Except.ok.inj ((arith_div a b c d hab hcd h0).symm.trans h))
      exact div_ofIvl n dep hd a b c d hn hab hcd h0

theorem embed_op_f (n : Nat) (hn : 0 < n) (o : Op) (a b c d lo hi : Rat) (hab : a ≤ b) (hcd : c ≤ d)
    (h : Arith.binop (toArith o) (.I a b) (.I c d) = .ok (.I lo hi)) :
    binop n o .f (ofIvl n a b) (ofIvl n c d) = .ok (ofIvl n lo hi) :=
  embed_op n hn .f (by decide) o a b c d lo hi hab hcd h

theorem embed_op_p (n : Nat) (hn : 0 < n) (o : Op) (a b c d lo hi : Rat) (hab : a ≤ b) (hcd : c ≤ d)
    (h : Arith.binop (toArith o) (.I a b) (.I c d) = .ok (.I lo hi)) :
    binop n o .p (ofIvl n a b) (ofIvl n c d) = .ok (ofIvl n lo hi) :=
  embed_op n hn .p (by decide) o a b c d lo hi hab hcd h

theorem embed_op_o (n : Nat) (hn : 0 < n) (o : Op) (a b c d lo hi : Rat) (hab : a ≤ b) (hcd : c ≤ d)
    (h : Arith.binop (toArith o) (.I a b) (.I c d) = .ok (.I lo hi)) :
    binop n o .o (ofIvl n a b) (ofIvl n c d) = .ok (ofIvl n lo hi) :=
  embed_op n hn .o (by decide) o a b c d lo hi hab hcd h

theorem embed_op_i (n : Nat) (hn : 0 < n) (o : Op) (a b c d lo hi : Rat) (hab : a ≤ b) (hcd : c ≤ d)
    (h : Arith.binop (toArith o) (.I a b) (.I c d) = .ok (.I lo hi)) :
    binop n o .i (ofIvl n a b) (ofIvl n c d) = .ok (ofIvl n lo hi) :=
  embed_op n hn .i (by decide) o a b c d lo hi hab hcd h

/-- the interval model answers every valid pair (division: divisor without zero), so `embed_op` is not vacuous -/
theorem arith_total (o : Op) (a b c d : Rat) (hab : a ≤ b) (hcd : c ≤ d) (h0 : o = .div → (0 < c ∨ d < 0)) :
    ∃ lo hi, Arith.binop (toArith o) (.I a b) (.I c d) = .ok (.I lo hi) := by
  cases o with
  | add => exact ⟨_, _, Arith.binop_II_add a b c d hab hcd⟩
  | sub => exact ⟨_, _, Arith.binop_II_sub a b c d hab hcd⟩
  | mul => exact ⟨_, _, arith_mul a b c d hab hcd⟩
  | div => exact ⟨_, _, arith_div a b c d hab hcd (h0 rfl)⟩

example : binop 3 .mul .f (ofIvl 3 (-1) 2) (ofIvl 3 (-3) 4) = .ok (ofIvl 3 (-6) 8) := by
  apply embed_op_f 3 (by decide) .mul (-1) 2 (-3) 4 (-6) 8 (by norm_num) (by norm_num)
  rw [toArith, arith_mul _ _ _ _ (by norm_num) (by norm_num)]
  norm_num [min4, max4]

/-- the Python expression `Interval op Interval` and the same expression with both operands converted
to p-boxes first (any ambient dependency): the second is the embedding of the first -/
theorem ivl_expr_embeds (n : Nat) (hn : 0 < n) (dep : Dep) (hd : dep ≠ .unknown) (o : Op)
    (a b c d lo hi : Rat) (hab : a ≤ b) (hcd : c ≤ d)
    (h : evalOp n dep o (.ivl a b) (.ivl c d) = .ok (.ivl lo hi)) :
    spec n dep o (.ivl a b) (.ivl c d) = .ok (ofIvl n lo hi) := by
  have h' : Arith.binop (toArith o) (.I a b) (.I c d) = .ok (.I lo hi) := by
    simp only [evalOp, opdArith, lowOp] at h
    generalize Arith.binop (toArith o) (.I a b) (.I c d) = r at h ⊢
    match r, h with
    | .ok (.I x y), h => simp only [resOfArith] at h; injection h with h; injection h with h1 h2; rw [h1, h2]
    | .ok (.N x), h => simp [resOfArith] at h
  simp only [spec, convert, convertPbox]
  rw [ivlToPbox_eq n a b hab, ok_bind, ivlToPbox_eq n c d hcd, ok_bind]
  exact embed_op n hn dep hd o a b c d lo hi hab hcd h'

/-! ## ★ point-valued operands -/

/-- **Point-valued operands give the real-number result**: numbers embedded as p-boxes
(`operation.convert`) combined under any dependency give the embedding of the Python result -/
theorem embed_real (n : Nat) (hn : 0 < n) (dep : Dep) (hd : dep ≠ .unknown) (o : Op) (x y z : Rat)
    (h : native o x y = .ok (.num z)) :
    binop n o dep (ofReal n x) (ofReal n y) = .ok (ofReal n z) := by
  unfold ofReal
  cases o with
  | add =>
    obtain rfl := Res.num.inj (Except.ok.inj h)
    exact add_ofIvl n dep hd x x y y hn (le_refl x) (le_refl y)
  | sub =>
    obtain rfl := Res.num.inj (Except.ok.inj h)
    exact sub_ofIvl n dep hd x x y y hn (le_refl x) (le_refl y)
  | mul =>
    obtain rfl := Res.num.inj (Except.ok.inj h)
    have := mul_ofIvl n dep hd x x y y hn (le_refl x) (le_refl y)
    rwa [min4_self, max4_self] at this
  | div =>
    simp only [native] at h
    by_cases hy : y = 0
    · simp [hy] at h
    · rw [if_neg hy] at h
      obtain rfl := Res.num.inj (Except.ok.inj h)
      have := div_ofIvl n dep hd x x y y hn (le_refl x) (le_refl y) (lt_or_gt_of_ne hy).symm
      rwa [min4_self, max4_self, ← div_eq_mul_one_div] at this

theorem real_expr_embeds (n : Nat) (hn : 0 < n) (dep : Dep) (hd : dep ≠ .unknown) (o : Op) (x y z : Rat)
    (h : evalOp n dep o (.num x) (.num y) = .ok (.num z)) :
    spec n dep o (.num x) (.num y) = .ok (ofReal n z) := by
  simp only [evalOp, opdArith, lowOp] at h
  simp only [spec, convert]
  rw [ivlToPbox_eq n x x (le_refl x), ok_bind, ivlToPbox_eq n y y (le_refl y), ok_bind]
  exact embed_real n hn dep hd o x y z h

example : binop 4 .div .i (ofReal 4 3) (ofReal 4 (-2)) = .ok (ofReal 4 (-3/2)) :=
  embed_real 4 (by decide) .i (by decide) .div 3 (-2) (-3/2) (by norm_num [native])

theorem real_div_zero (n : Nat) (dep : Dep) (x : Rat) :
    evalOp n dep .div (.num x) (.num 0) = .error .ZeroDivision := by
  simp [evalOp, opdArith, lowOp, native]

/-! ## ★ interval with a precise distribution: shifted / scaled quantiles -/

theorem ne_unknown_of_fpo {dep : Dep} (hd : dep = .f ∨ dep = .p ∨ dep = .o) : dep ≠ .unknown := by
  rcases hd with h | h | h <;> subst h <;> decide

/-- **Interval + precise distribution** (constant on the left: the converted-first expression), under
Frechet, perfect or opposite dependence: the quantile list shifted by the interval -/
theorem ivl_dist_shift (q : List Rat) (hq : q.Pairwise (· ≤ ·)) (a b : Rat) (hab : a ≤ b) (dep : Dep)
    (hd : dep = .f ∨ dep = .p ∨ dep = .o) :
    add q.length dep (ofIvl q.length a b) (ofDist q) = .ok ⟨q.map (a + ·), q.map (b + ·)⟩ :=
  add_const_left_all q.length dep (ne_unknown_of_fpo hd) a b hab (ofDist q) (wf_ofDist q hq)

/-- the same with the distribution on the left (what `Interval + Distribution` executes through the
reflected operator, and `Distribution + Interval` directly) -/
theorem dist_ivl_shift (q : List Rat) (hq : q.Pairwise (· ≤ ·)) (a b : Rat) (hab : a ≤ b) (dep : Dep)
    (hd : dep ≠ .unknown) :
    add q.length dep (ofDist q) (ofIvl q.length a b) = .ok ⟨q.map (a + ·), q.map (b + ·)⟩ :=
  add_const_right_all q.length dep hd a b hab (ofDist q) (wf_ofDist q hq)

set_option linter.unusedVariables false in
/-- `Distribution + Interval` / `Interval + Distribution` as executed (the distribution's p-box is the
left operand of `add`), **every** dependency code: the quantile list shifted by the interval -/
theorem ivl_plus_dist_expr_any (q : List Rat) (hq : q.Pairwise (· ≤ ·)) (hn : 0 < q.length) (a b : Rat) (hab : a ≤ b)
    (dep : Dep) (hd : dep ≠ .unknown) :
    evalOp q.length dep .add (.ivl a b) (.dist q) = .ok (.pbox ⟨q.map (a + ·), q.map (b + ·)⟩) ∧
    evalOp q.length dep .add (.dist q) (.ivl a b) = .ok (.pbox ⟨q.map (a + ·), q.map (b + ·)⟩) := by
  have key := dist_ivl_shift q hq a b hab dep hd
  constructor
  · simp only [evalOp, opdArith, convertPbox, ok_bind, reflected, pboxAdd]
    rw [ivlToPbox_eq _ a b hab, ok_bind, key]; rfl
  · simp only [evalOp, opdArith, convertPbox, ok_bind, method, pboxAdd]
    rw [ivlToPbox_eq _ a b hab, ok_bind, key]; rfl

theorem ivl_plus_dist_expr (q : List Rat) (hq : q.Pairwise (· ≤ ·)) (hn : 0 < q.length) (a b : Rat) (hab : a ≤ b)
    (dep : Dep) (hd : dep = .f ∨ dep = .p ∨ dep = .o) :
    evalOp q.length dep .add (.ivl a b) (.dist q) = .ok (.pbox ⟨q.map (a + ·), q.map (b + ·)⟩) ∧
    evalOp q.length dep .add (.dist q) (.ivl a b) = .ok (.pbox ⟨q.map (a + ·), q.map (b + ·)⟩) :=
  ivl_plus_dist_expr_any q hq hn a b hab dep (ne_unknown_of_fpo hd)

set_option linter.unusedVariables false in
theorem dist_minus_ivl_expr (q : List Rat) (hq : q.Pairwise (· ≤ ·)) (hn : 0 < q.length) (a b : Rat) (hab : a ≤ b)
    (dep : Dep) (hd : dep = .f ∨ dep = .p ∨ dep = .o) :
    evalOp q.length dep .sub (.dist q) (.ivl a b) = .ok (.pbox ⟨q.map (-b + ·), q.map (-a + ·)⟩) := by
  simp only [evalOp, opdArith, convertPbox, ok_bind, method, pboxSub, negOpd, pboxAdd]
  rw [ivlToPbox_eq _ (-b) (-a) (neg_le_neg hab), ok_bind,
    dist_ivl_shift q hq (-b) (-a) (neg_le_neg hab) _ (swapPO_ne_unknown dep (ne_unknown_of_fpo hd))]
  rfl

example : add 3 .f (ofIvl 3 1 2) (ofDist [0, 5, 7]) = .ok ⟨[1, 6, 8], [2, 7, 9]⟩ := by
  have := ivl_dist_shift [0, 5, 7] (by decide) 1 2 (by norm_num) .f (Or.inl rfl)
  norm_num at this; exact this

example : (evalOp 3 .i .add (.ivl 1 2) (.dist [0, 5, 7])) = .ok (.pbox ⟨[1, 6, 8], [2, 7, 9]⟩) := by
  have := (ivl_plus_dist_expr_any [0, 5, 7] (by decide) (by decide) 1 2 (by norm_num) .i (by decide)).1
  norm_num at this; exact this

/-- **Interval × precise positive distribution** (`0 ≤ a`), Frechet or perfect dependence: the quantile
list scaled by the interval -/
theorem ivl_dist_scale (q : List Rat) (hq : q.Pairwise (· ≤ ·)) (hpos : ∀ v ∈ q, 0 < v) (hne : q ≠ [])
    (a b : Rat) (ha : 0 ≤ a) (hab : a ≤ b) (hb : 0 < b) (dep : Dep) (hd : dep = .f ∨ dep = .p) :
    mul q.length dep (ofIvl q.length a b) (ofDist q) = .ok ⟨q.map (a * ·), q.map (b * ·)⟩ := by
  have hn : 0 < q.length := List.length_pos_of_ne_nil hne
  have hQ := wf_ofDist q hq
  have hle : List.Forall₂ (fun x y => x * a ≤ y * b) q q :=
    List.forall₂_same.mpr fun v hv => mul_le_mul_of_nonneg_left hab (hpos v hv).le
  have hw : WF q.length ⟨q.map (· * a), q.map (· * b)⟩ :=
    ⟨by simp, by simp, hq.map _ (fun x y h => mul_le_mul_of_nonneg_right h ha),
      hq.map _ (fun x y h => mul_le_mul_of_nonneg_right h hb.le),
      by rw [List.forall₂_map_left_iff, List.forall₂_map_right_iff]; exact hle⟩
  -- the distribution on the left: the interval acts step by step; then exchange the operands
  have key : mul q.length dep (ofDist q) (ofIvl q.length a b) = .ok ⟨q.map (· * a), q.map (· * b)⟩ := by
    rcases hd with h | h <;> subst h
    · have s1 := straddlesZero_ofIvl_false q.length a b hn (Or.inr ha)
      have s2 : straddlesZero (ofDist q) = false :=
        straddlesZero_false_pos _ hpos hpos
      have s3 : ¬ hi (ofDist q) ≤ 0 := not_le.mpr (hpos _ (getLastD_mem q 0 hne))
      simp only [mul, frechetMul, s1, s2, Bool.or_self, Bool.false_eq_true, if_false]
      rw [noStraddle_pp _ _ _ s3 (by rw [hi_ofIvl _ a b hn]; exact not_le.mpr hb)]
      exact classicFrechet_const_right _ (· * ·) _ hQ a b (fun x y h => mul_le_mul_of_nonneg_right h ha)
        (fun x y h => mul_le_mul_of_nonneg_right h hb.le) hw
    · have hcor : List.Forall₂ (fun x y => min4 (x * a) (x * b) (y * a) (y * b) = x * a ∧
          max4 (x * a) (x * b) (y * a) (y * b) = y * b) q q :=
        List.forall₂_same.mpr fun v hv => hull_nonneg v v a b (hpos v hv).le le_rfl ha hab
      simp only [mul, perfectOp_const_right (· * ·) _ _ hQ.len a b]
      simp only [ofDist]
      rw [zip4_map_left min4 _ _ _ _ (· * a) _ _ (hcor.imp fun _ _ h => h.1),
        zip4_map_right max4 _ _ _ _ (· * b) _ _ (hcor.imp fun _ _ h => h.2),
        sortR_of_sorted _ hw.lsorted, sortR_of_sorted _ hw.rsorted]
      exact mk_wf _ false _ _ hw
  rw [mul_comm_ok _ dep _ _ _ hQ.len (len_ofIvl _ a b) key]
  congr 2 <;> exact List.map_congr_left fun x _ => mul_comm x _

example : mul 3 .f (ofIvl 3 1 2) (ofDist [1, 5, 7]) = .ok ⟨[1, 5, 7], [2, 10, 14]⟩ := by
  have := ivl_dist_scale [1, 5, 7] (by decide) (by decide) (by decide) 1 2 (by norm_num) (by norm_num) (by norm_num) .f (Or.inl rfl)
  norm_num at this; exact this

/-! ## ★ the dispatch graph and "convert every operand first" -/

theorem evalOp_route (n : Nat) (d : Dep) (o : Op) (l r : Opd) :
    evalOp n d o l r =
      match route l.kind o r.kind with
      | .native => lowOp o l r
      | .interval => lowOp o l r
      | .pboxRefl => (convertPbox n r >>= fun p => reflected n o d l p >>= fun z => pure (.pbox z))
      | .pboxFwd => (convertPbox n l >>= fun p => method n o d p r >>= fun z => pure (.pbox z)) := by
  cases l <;> cases r <;> rfl

/-- every pair with at least one p-box-like operand is routed through a p-box method; only
number / interval pairs stay in the simpler calculus -/
theorem route_total (l r : Kind) (o : Op) :
    (route l o r = .pboxFwd ↔ isLow l = false) ∧
    (route l o r = .pboxRefl ↔ (isLow l = true ∧ isLow r = false)) ∧
    (route l o r = .native ↔ (l = .num ∧ r = .num)) := by
  cases l <;> cases r <;> cases o <;> decide

/-- operands the library can build: ordered interval, well-formed bounds, sorted quantile list -/
def ValidOpd (n : Nat) : Opd → Prop
  | .num _ => True
  | .ivl a b => a ≤ b
  | .pbox p => WF n p
  | .dist q => q.length = n ∧ q.Pairwise (· ≤ ·)
  | .dss p => WF n p

def isHigh : Opd → Bool
  | .pbox _ => true | .dist _ => true | .dss _ => true | _ => false

/-- a p-box-like operand is converted to a p-box `Y`; its own `-·` and `1/·` and the p-box methods that
take it as argument act on `Y` -/
theorem high_eqs (n : Nat) (r : Opd) (hr : isHigh r = true) :
    ∃ Y, convertPbox n r = .ok Y ∧ convert n r = .ok Y ∧ (ValidOpd n r → WF n Y) ∧
      negOpd n r = (neg n Y >>= fun t => pure (.pbox t)) ∧
      oneOver n r = (oneOverPB n Y >>= fun t => pure (.pbox t)) ∧
      (∀ dd P, pboxAdd n dd P r = add n dd P Y) ∧ (∀ dd P, pboxMul n dd P r = mul n dd P Y) := by
  cases r with
  | num c => cases hr
  | ivl a b => cases hr
  | pbox p => exact ⟨p, rfl, rfl, id, rfl, rfl, fun _ _ => rfl, fun _ _ => rfl⟩
  | dist q =>
    exact ⟨ofDist q, rfl, rfl, fun hv => by obtain ⟨h1, h2⟩ := hv; subst h1; exact wf_ofDist q h2, rfl, rfl,
      fun _ _ => rfl, fun _ _ => rfl⟩
  | dss p => exact ⟨p, rfl, rfl, id, rfl, rfl, fun _ _ => rfl, fun _ _ => rfl⟩

theorem convert_high (n : Nat) (l : Opd) (hl : isHigh l = true) :
    ∃ P, convertPbox n l = .ok P ∧ convert n l = .ok P := by
  obtain ⟨P, h1, h2, -⟩ := high_eqs n l hl
  exact ⟨P, h1, h2⟩

theorem convert_high_wf (n : Nat) (l : Opd) (hl : isHigh l = true) (hv : ValidOpd n l) :
    ∃ P, convertPbox n l = .ok P ∧ convert n l = .ok P ∧ WF n P := by
  obtain ⟨P, h1, h2, h3, -⟩ := high_eqs n l hl
  exact ⟨P, h1, h2, h3 hv⟩

theorem isLow_kind (l : Opd) : isLow l.kind = !isHigh l := by cases l <;> rfl

theorem evalOp_fwd (n : Nat) (d : Dep) (o : Op) (l r : Opd) (hl : isHigh l = true) (P : PB)
    (hP : convertPbox n l = .ok P) :
    evalOp n d o l r = (method n o d P r >>= fun t => pure (.pbox t)) := by
  have hroute : route l.kind o r.kind = .pboxFwd :=
    (route_total l.kind r.kind o).1.mpr (by rw [isLow_kind, hl]; rfl)
  rw [evalOp_route, hroute]
  simp only [hP, ok_bind]

theorem evalOp_refl (n : Nat) (d : Dep) (o : Op) (l r : Opd) (hl : isHigh l = false) (hr : isHigh r = true) (Q : PB)
    (hQ : convertPbox n r = .ok Q) :
    evalOp n d o l r = (reflected n o d l Q >>= fun t => pure (.pbox t)) := by
  have hroute : route l.kind o r.kind = .pboxRefl :=
    (route_total l.kind r.kind o).2.1.mpr ⟨by rw [isLow_kind, hl]; rfl, by rw [isLow_kind, hr]; rfl⟩
  rw [evalOp_route, hroute]
  simp only [hQ, ok_bind]

theorem method_high (n : Nat) (d : Dep) (o : Op) (P : PB) (r : Opd) (hr : isHigh r = true) (Y : PB)
    (hY : convertPbox n r = .ok Y) : method n o d P r = binop n o d P Y := by
  obtain ⟨Y', hY', -, -, hneg, hone, hadd, hmul⟩ := high_eqs n r hr
  obtain rfl : Y' = Y := by rw [hY'] at hY; injection hY
  cases o with
  | add => exact hadd d P
  | mul => exact hmul d P
  | sub =>
    simp only [method, pboxSub, hneg, binop, PBox.sub]
    cases neg n Y' <;> rfl
  | div =>
    simp only [method, pboxDiv, hone, oneOverPB, binop, PBox.div]
    cases (recip n Y' >>= fun r => numberOp n (· * ·) r 1) <;> rfl

/-- `P.<op>(Interval)`: the interval is negated / inverted by INTERVAL arithmetic before it is
converted; the result is the p-box operation on the converted interval -/
theorem method_ivl (n : Nat) (hn : 0 < n) (d : Dep) (o : Op) (P : PB) (a b : Rat) (hab : a ≤ b)
    (h0 : o = .div → (0 < a ∨ b < 0)) :
    method n o d P (.ivl a b) = binop n o d P (ofIvl n a b) := by
  cases o with
  | add => simp only [method, pboxAdd, convertPbox, ivlToPbox_eq n a b hab, ok_bind, binop]
  | mul => simp only [method, pboxMul, convertPbox, ivlToPbox_eq n a b hab, ok_bind, binop]
  | sub =>
    simp only [method, pboxSub, negOpd, ok_bind, pboxAdd, convertPbox, binop, PBox.sub,
      ivlToPbox_eq n (-b) (-a) (neg_le_neg hab), neg_ofIvl n a b hab]
  | div =>
    have h0' := h0 rfl
    have hz : ¬ (a ≤ 0 ∧ b ≥ 0) := by rintro ⟨h1, h2⟩; rcases h0' with h | h <;> linarith
    simp only [method, pboxDiv, oneOver, hz, if_false, ok_bind, pboxMul, convertPbox, binop,
      ivlToPbox_eq n (1/b) (1/a) (one_div_anti a b hab h0'), div_ofIvl_right n d P a b hn hab h0']

/-- `P / Interval` with zero in the interval raises `ZeroDivisionError` (interval arithmetic rejects it
before any p-box is built) -/
theorem method_div_zero (n : Nat) (d : Dep) (P : PB) (a b : Rat) (hz : a ≤ 0 ∧ 0 ≤ b) :
    method n .div d P (.ivl a b) = .error .ZeroDivision := by
  simp [method, pboxDiv, oneOver, hz.1, hz.2]

/-- the explicit-dependency method with an `Interval` argument, `I.to_pbox().<op>(J, dependency=d)`:
the embedding of the C01 result `I op J`, for every operation and dependency -/
theorem ivl_method_embeds (n : Nat) (hn : 0 < n) (dep : Dep) (hd : dep ≠ .unknown) (o : Op)
    (a b c d lo hi : Rat) (hab : a ≤ b) (hcd : c ≤ d)
    (h : Arith.binop (toArith o) (.I a b) (.I c d) = .ok (.I lo hi)) :
    method n o dep (ofIvl n a b) (.ivl c d) = .ok (ofIvl n lo hi) := by
  have h0 : o = .div → (0 < c ∨ d < 0) := by
    intro ho; subst ho
    refine Arith.not_straddle_cases fun hz => ?_
    rw [toArith, Arith.binop_II_div_zero a b c d hz] at h
    cases h
  rw [method_ivl n hn dep o (ofIvl n a b) c d hcd h0]
  exact embed_op n hn dep hd o a b c d lo hi hab hcd h

/-- **Mixed expression = converted-first expression, left operand p-box-like** (`Pbox op Interval`,
`Pbox op Distribution`, `DSS op Pbox`, `Distribution op DSS`, …, all four operations, any dependency
code): whenever the converted-first expression returns `z`, so does the mixed expression. -/
theorem fwd_agrees (n : Nat) (hn : 0 < n) (d : Dep) (o : Op) (l r : Opd) (hl : isHigh l = true)
    (hr : match r with
      | .num _ => False
      | .ivl a b => a ≤ b ∧ (o = .div → (0 < a ∨ b < 0))
      | _ => True)
    (z : PB) (h : spec n d o l r = .ok z) : evalOp n d o l r = .ok (.pbox z) := by
  obtain ⟨P, hP1, hP2⟩ := convert_high n l hl
  rw [evalOp_fwd n d o l r hl P hP1]
  simp only [spec, hP2, ok_bind] at h
  by_cases hh : isHigh r = true
  · obtain ⟨Y, hY1, hY2⟩ := convert_high n r hh
    rw [hY2, ok_bind] at h
    rw [method_high n d o P r hh Y hY1, h]
    rfl
  · cases r with
    | num c => exact absurd hr id
    | ivl a b =>
      simp only [convert, convertPbox, ivlToPbox_eq n a b hr.1, ok_bind] at h
      rw [method_ivl n hn d o P a b hr.1 hr.2, h]
      rfl
    | pbox p => exact absurd rfl hh
    | dist q => exact absurd rfl hh
    | dss p => exact absurd rfl hh

/-- non-vacuity of `fwd_agrees`: the converted-first expression answers on a concrete mixed pair -/
example : spec 2 .o .add (.dist [0, 5]) (.ivl 1 2) = .ok ⟨[1, 6], [2, 7]⟩ := by
  have e := dist_ivl_shift [0, 5] (by decide) 1 2 (by norm_num) .o (by decide)
  simp only [spec, ok_bind, binop, convert, convertPbox]
  norm_num at e; exact e

example : ValidOpd 2 (.dist [0, 5]) := ⟨rfl, by decide⟩

/-! ## p-box-like operand on the left, Python number on the right -/

/-- **`X op c`**: the number route (`pbox_number_ops`, dependency ignored) and the converted-first
expression both answer, with the same p-box — all four operations, every dependency -/
theorem fwd_num_agrees (n : Nat) (hn : 0 < n) (d : Dep) (hd : d ≠ .unknown) (o : Op) (l : Opd)
    (hl : isHigh l = true) (hv : ValidOpd n l) (c : Rat) (hc : o = .div → c ≠ 0) :
    ∃ z, spec n d o l (.num c) = .ok z ∧ evalOp n d o l (.num c) = .ok (.pbox z) := by
  obtain ⟨P, hP1, hP2, hw⟩ := convert_high_wf n l hl hv
  have e1 : convert n (.num c) = .ok (ofIvl n c c) := ivlToPbox_eq n c c (le_refl c)
  have hd' := swapPO_ne_unknown d hd
  rw [evalOp_fwd n d o l _ hl P hP1]
  simp only [spec, hP2, e1, ok_bind]
  cases o with
  | add =>
    refine ⟨_, add_const_right_all n d hd c c (le_refl c) P hw, ?_⟩
    simp only [method, pboxAdd, numberOp_add_wf n P hw c, ok_bind]; rfl
  | sub =>
    refine ⟨⟨P.left.map (-c + ·), P.right.map (-c + ·)⟩, ?_, ?_⟩
    · simp only [binop, PBox.sub, neg_ofIvl n c c (le_refl c), ok_bind]
      exact add_const_right_all n _ hd' (-c) (-c) (le_refl _) P hw
    · simp only [method, pboxSub, negOpd, ok_bind, pboxAdd, numberOp_add_wf n P hw (-c)]; rfl
  | mul =>
    refine ⟨scaleP P c, ?_, ?_⟩
    · simp only [binop]; rw [mul_const_all n hn d hd P hw c]; exact numberOp_mul_wf n P hw c
    · simp only [method, pboxMul, numberOp_mul_wf n P hw c, ok_bind]; rfl
  | div =>
    have hc0 := hc rfl
    have h0 : 0 < c ∨ c < 0 := (lt_or_gt_of_ne hc0).symm
    refine ⟨scaleP P (1 / c), ?_, ?_⟩
    · simp only [binop, div_ofIvl_right n d P c c hn (le_refl c) h0]
      rw [mul_const_all n hn _ hd' P hw (1 / c)]; exact numberOp_mul_wf n P hw (1 / c)
    · simp only [method, pboxDiv, oneOver, hc0, if_false, ok_bind, pboxMul, numberOp_mul_wf n P hw (1 / c)]; rfl

/-! ## number or interval on the left: the reflected operators -/

def lowLo : Opd → Rat
  | .num c => c | .ivl a _ => a | _ => 0
def lowHi : Opd → Rat
  | .num c => c | .ivl _ b => b | _ => 0

/-- a number or an ordered interval `l`: `operation.convert` makes the constant box of its endpoints of it;
`Q.add(l)` is the shift by it (a number through `pbox_number_ops`), `Q.mul(l)` the p-box product with the
converted `l` (a number through `pbox_number_ops` again, which is that product: `mul_const_all`) -/
theorem low_eqs (n : Nat) (hn : 0 < n) (l : Opd) (hl : isHigh l = false) (hv : ValidOpd n l) :
    lowLo l ≤ lowHi l ∧ convert n l = .ok (ofIvl n (lowLo l) (lowHi l)) ∧
    (∀ d Q, d ≠ .unknown → WF n Q →
      pboxAdd n d Q l = .ok ⟨Q.left.map (lowLo l + ·), Q.right.map (lowHi l + ·)⟩) ∧
    (∀ d Q, d ≠ .unknown → WF n Q → pboxMul n d Q l = mul n d Q (ofIvl n (lowLo l) (lowHi l))) := by
  cases l with
  | num c =>
    exact ⟨le_refl c, ivlToPbox_eq n c c (le_refl c), fun d Q _ hQ => numberOp_add_wf n Q hQ c,
      fun d Q hd hQ => (mul_const_all n hn d hd Q hQ c).symm⟩
  | ivl a b =>
    refine ⟨hv, ivlToPbox_eq n a b hv, fun d Q hd hQ => ?_, fun d Q hd hQ => ?_⟩
    · simp only [pboxAdd, convertPbox, ivlToPbox_eq n a b hv, ok_bind]
      exact add_const_right_all n d hd a b hv Q hQ
    · simp only [pboxMul, convertPbox, ivlToPbox_eq n a b hv, ok_bind, lowLo, lowHi]
  | pbox p => cases hl
  | dist q => cases hl
  | dss p => cases hl

/-- **`l + X`, `l - X`** for a number or an interval `l` and a p-box-like `X` (reflected operators `__radd__`,
`__rsub__`; the latter is `(-X).add(l)` with the dependency NOT exchanged, the converted-first difference is
`l.add(-X)` with `p ↔ o` exchanged): both answer, with `X` resp. `-X` shifted by `l` — every dependency -/
theorem refl_add_sub_agrees (n : Nat) (hn : 0 < n) (d : Dep) (hd : d ≠ .unknown) (o : Op) (ho : o = .add ∨ o = .sub)
    (l r : Opd) (hl : isHigh l = false) (hvl : ValidOpd n l) (hr : isHigh r = true) (hvr : ValidOpd n r) :
    ∃ z, spec n d o l r = .ok z ∧ evalOp n d o l r = .ok (.pbox z) := by
  obtain ⟨Q, hQ1, hQ2, hw⟩ := convert_high_wf n r hr hvr
  obtain ⟨hab, hl1, hadd, -⟩ := low_eqs n hn l hl hvl
  rw [evalOp_refl n d o l r hl hr Q hQ1]
  simp only [spec, hl1, hQ2, ok_bind]
  rcases ho with h | h <;> subst h
  · refine ⟨_, add_const_left_all n d hd _ _ hab Q hw, ?_⟩
    simp only [reflected, hadd d Q hd hw, ok_bind]; rfl
  · obtain ⟨hneg, hwn⟩ := neg_wf n Q hw
    simp only [binop, PBox.sub, hneg, ok_bind]
    rw [add_const_left_all n _ (swapPO_ne_unknown d hd) _ _ hab _ hwn]
    refine ⟨_, rfl, ?_⟩
    simp only [reflected, hneg, ok_bind, hadd d _ hd hwn]; rfl

/-- **`l op X`** for a number or an interval `l` and a p-box-like `X` (the reflected operators
`__radd__`, `__rsub__`, `__rmul__`, `__rtruediv__`, dependency NOT exchanged): whenever the converted-first
expression answers `z`, so does the mixed expression — all four operations, every dependency.  Products and
quotients: the p-box product is symmetric, and exchanging `p` and `o` is immaterial against a constant -/
theorem refl_agrees (n : Nat) (hn : 0 < n) (d : Dep) (hd : d ≠ .unknown) (o : Op) (l r : Opd)
    (hl : isHigh l = false) (hvl : ValidOpd n l) (hr : isHigh r = true) (hvr : ValidOpd n r)
    (z : PB) (h : spec n d o l r = .ok z) : evalOp n d o l r = .ok (.pbox z) := by
  have hsum : o = .add ∨ o = .sub → evalOp n d o l r = .ok (.pbox z) := by
    intro ho
    obtain ⟨z', h1, h2⟩ := refl_add_sub_agrees n hn d hd o ho l r hl hvl hr hvr
    rw [h1] at h
    injection h with e
    rw [← e]; exact h2
  obtain ⟨Q, hQ1, hQ2, hw⟩ := convert_high_wf n r hr hvr
  obtain ⟨hab, hl1, -, hmul⟩ := low_eqs n hn l hl hvl
  cases o with
  | add => exact hsum (Or.inl rfl)
  | sub => exact hsum (Or.inr rfl)
  | mul =>
    rw [evalOp_refl n d .mul l r hl hr Q hQ1]
    simp only [spec, hl1, hQ2, ok_bind, binop] at h
    have h' := mul_comm_ok n d _ _ z (len_ofIvl n _ _) hw.len h
    simp only [reflected, hmul d Q hd hw, h', ok_bind]; rfl
  | div =>
    rw [evalOp_refl n d .div l r hl hr Q hQ1]
    simp only [spec, hl1, hQ2, ok_bind, binop, PBox.div] at h
    cases hr12 : (recip n Q >>= fun r => numberOp n (· * ·) r 1) with
    | error e => rw [hr12] at h; simp at h
    | ok r1 =>
      rw [hr12] at h
      simp only at h
      obtain ⟨R, hR, hR1⟩ := bind_ok_inv hr12
      have hwR : WF n R := wf_of_c04 (Pun.WF.recip_wf n Q R (wf_c04 hw) hR)
      rw [numberOp_mul_wf n R hwR 1, scaleP_one R] at hR1
      injection hR1 with e; subst e
      have h' := mul_comm_ok n _ _ _ z (len_ofIvl n _ _) hwR.len h
      rw [mul_swapPO_const_right] at h'
      simp only [reflected, hR, ok_bind, hmul d R hd hwR, h', tryType]; rfl

/-! ## the full statement and what is proved of it here -/

/-- divisor operands that the property covers: no zero inside -/
def DivisorOk (o : Op) : Opd → Prop
  | .num c => o = .div → c ≠ 0
  | .ivl a b => o = .div → (0 < a ∨ b < 0)
  | .pbox p => o = .div → ((∀ v ∈ p.left, 0 < v) ∨ (∀ v ∈ p.right, v < 0))
  | .dist q => o = .div → ((∀ v ∈ q, 0 < v) ∨ (∀ v ∈ q, v < 0))
  | .dss p => o = .div → ((∀ v ∈ p.left, 0 < v) ∨ (∀ v ∈ p.right, v < 0))

/-- **C07, dispatch part, full strength**: for every pair of valid operands of which at least one is
p-box-like, every operation and dependency, the mixed expression returns exactly the p-box of the
expression with every operand converted first. -/
def C07RouteStatement : Prop :=
  ∀ (n : Nat) (_ : 0 < n) (d : Dep) (_ : d ≠ .unknown) (o : Op) (l r : Opd),
    ValidOpd n l → ValidOpd n r → (isHigh l = true ∨ isHigh r = true) → DivisorOk o r →
    ∃ z, spec n d o l r = .ok z ∧ evalOp n d o l r = .ok (.pbox z)

/-- what is proved here of `C07RouteStatement`: (1) left operand p-box-like and right operand an interval or
p-box-like — all operations, all dependencies (conditional on the converted-first expression
answering); (2) `Interval + X`, `Interval - X` for p-box-like `X` under f / p / o; (3) `c + X`, `X + c`,
`c - X`, `X - c` for a Python number `c` under f / p / o. -/
theorem route_agrees_partial :
    (∀ (n : Nat) (_ : 0 < n) (d : Dep) (o : Op) (l r : Opd), isHigh l = true →
      (match r with
        | .num _ => False
        | .ivl a b => a ≤ b ∧ (o = .div → (0 < a ∨ b < 0))
        | _ => True) →
      ∀ z, spec n d o l r = .ok z → evalOp n d o l r = .ok (.pbox z)) ∧
    (∀ (n : Nat) (_ : 0 < n) (d : Dep) (_ : d = .f ∨ d = .p ∨ d = .o) (o : Op) (_ : o = .add ∨ o = .sub)
      (a b : Rat) (_ : a ≤ b) (r : Opd), isHigh r = true → ValidOpd n r →
      ∃ z, evalOp n d o (.ivl a b) r = .ok (.pbox z) ∧ spec n d o (.ivl a b) r = .ok z) ∧
    (∀ (n : Nat) (_ : 0 < n) (d : Dep) (_ : d = .f ∨ d = .p ∨ d = .o) (o : Op) (_ : o = .add ∨ o = .sub)
      (c : Rat) (r : Opd), isHigh r = true → ValidOpd n r →
      (∃ z, evalOp n d o (.num c) r = .ok (.pbox z) ∧ spec n d o (.num c) r = .ok z) ∧
      (∃ z, evalOp n d o r (.num c) = .ok (.pbox z) ∧ spec n d o r (.num c) = .ok z)) := by
  refine ⟨fun n hn d o l r hl hr z h => fwd_agrees n hn d o l r hl hr z h, ?_, ?_⟩
  · intro n hn d hd o ho a b hab r hr hv
    obtain ⟨z, h1, h2⟩ := refl_add_sub_agrees n hn d (ne_unknown_of_fpo hd) o ho (.ivl a b) r rfl hab hr hv
    exact ⟨z, h2, h1⟩
  · intro n hn d hd o ho c r hr hv
    have hod : o = .div → c ≠ 0 := by rcases ho with h | h <;> subst h <;> exact fun e => Op.noConfusion e
    obtain ⟨z, h1, h2⟩ := refl_add_sub_agrees n hn d (ne_unknown_of_fpo hd) o ho (.num c) r rfl trivial hr hv
    obtain ⟨z', h1', h2'⟩ := fwd_num_agrees n hn d (ne_unknown_of_fpo hd) o r hr hv c hod
    exact ⟨⟨z, h2, h1⟩, ⟨z', h2', h1'⟩⟩

example : ∃ z, evalOp 2 .f .sub (.num 3) (.pbox ⟨[0, 1], [1, 4]⟩) = .ok (.pbox z) ∧
    spec 2 .f .sub (.num 3) (.pbox ⟨[0, 1], [1, 4]⟩) = .ok z :=
  (route_agrees_partial.2.2 2 (by decide) .f (Or.inl rfl) .sub (Or.inr rfl) 3 (.pbox ⟨[0, 1], [1, 4]⟩) rfl
    ⟨rfl, rfl, by decide, by decide, by repeat constructor⟩).1

/-- non-vacuity: a concrete mixed expression meets the hypotheses -/
example : ∃ z, evalOp 2 .p .sub (.ivl 1 2) (.dist [0, 5]) = .ok (.pbox z) ∧
    spec 2 .p .sub (.ivl 1 2) (.dist [0, 5]) = .ok z :=
  route_agrees_partial.2.1 2 (by decide) .p (Or.inr (Or.inl rfl)) .sub (Or.inr rfl) 1 2 (by norm_num) (.dist [0, 5]) rfl
    ⟨rfl, by decide⟩

end Pun.Hier
