import Pun.Props.C09
import Pun.Gen.ParamGen
/-!
# C09, generated part: the corner enumeration and the reductions *as the source has them now*

`Pun/Gen/ParamGen.lean` is regenerated from `pba/pbox_parametric.py` on every run: how the corner set is
enumerated (`cornersGen`), which reductions give the left / right bound (`paramBoundsGen`), the levels
(`levelsGen`, from `Params.p_values` via `GridGen`), how a corner is split into positional and keyword
arguments (`callGen`), the moment intervals and their guard (`momentsGen`), the wiring of the four results
into `Leaf(...)`.  Here each generated definition is proved equal to the hand model of `Model/Param.lean`
(so the theorems of `Props/C09.lean` are about what the source says now), the corner list is shown to have
exactly `2^k` elements and to contain every vertex, and the enclosure theorem is re-proved directly for
`paramBoundsGen`.  The equalities are structural (`rfl` / induction on the box), not finite tables; the
wiring and flag lemmas are `decide` over the generated literals.
-/
namespace Pun.Gen.Param
open Pun Pun.Param

/-- `itertools.product` of the endpoint pairs is the hand model's `corners` -/
theorem cartesian_endpoints : ∀ b : List (Rat × Rat), cartesian (b.map endpoints) = corners b
  | [] => rfl
  | (lo, hi) :: b => by
    simp only [List.map_cons, cartesian, endpoints, List.flatMap_cons, List.flatMap_nil, List.append_nil,
      cartesian_endpoints b, corners]

/-- ★ the generated corner enumeration is the hand model's, positional parameters first -/
theorem gen_corners_eq (pos kw : List (Rat × Rat)) : cornersGen pos kw = corners (pos ++ kw) := by
  unfold cornersGen; exact cartesian_endpoints _

theorem corners_length : ∀ b : List (Rat × Rat), (corners b).length = 2 ^ b.length
  | [] => rfl
  | (lo, hi) :: b => by
    simp only [corners, List.length_append, List.length_map, corners_length b, List.length_cons]
    omega

/-- ★ exactly `2^k` corners for `k` parameters (seed C09-k: `range(n_par << 1)` gave `2k`) -/
theorem gen_corners_length (pos kw : List (Rat × Rat)) :
    (cornersGen pos kw).length = 2 ^ (pos.length + kw.length) := by
  rw [gen_corners_eq, corners_length, List.length_append]

def Vertex : List (Rat × Rat) → List Rat → Prop
  | [], [] => True
  | (lo, hi) :: b, x :: xs => (x = lo ∨ x = hi) ∧ Vertex b xs
  | _, _ => False

theorem mem_corners_iff : ∀ (b : List (Rat × Rat)) (v : List Rat), v ∈ corners b ↔ Vertex b v
  | [], v => by cases v <;> simp [corners, Vertex]
  | (lo, hi) :: b, [] => by simp [corners, Vertex]
  | (lo, hi) :: b, x :: xs => by
    simp only [corners, List.mem_append, List.mem_map, List.cons.injEq, Vertex, ← mem_corners_iff b xs]
    constructor
    · rintro (⟨c, hc, rfl, rfl⟩ | ⟨c, hc, rfl, rfl⟩)
      · exact ⟨Or.inl rfl, hc⟩
      · exact ⟨Or.inr rfl, hc⟩
    · rintro ⟨h | h, hc⟩
      · exact Or.inl ⟨xs, hc, h.symm, rfl⟩
      · exact Or.inr ⟨xs, hc, h.symm, rfl⟩

/-- ★ the generated corner list contains every vertex of the box, and nothing else -/
theorem gen_corners_complete (pos kw : List (Rat × Rat)) (v : List Rat) :
    v ∈ cornersGen pos kw ↔ Vertex (pos ++ kw) v := by
  rw [gen_corners_eq]; exact mem_corners_iff _ v

/-- ★ the levels are `Params.p_values` (the table of `GridGen`, regenerated from params.py) -/
theorem gen_levels_eq : levelsGen = Pun.Gen.pValues := rfl

/-- the level functions of a family `Q corner level` on the generated grid -/
def QsOf (Q : List Rat → Rat → Rat) : List (List Rat → Rat) := levelsGen.map (fun p c => Q c p)

theorem rowOf_QsOf (Q : List Rat → Rat → Rat) (c : List Rat) : rowOf (QsOf Q) c = levelsGen.map (fun p => Q c p) := by
  simp [rowOf, QsOf, List.map_map, Function.comp_def]

/-- ★ left = columnwise minimum, right = columnwise maximum of the corner rows of the hand model -/
theorem gen_bounds_eq (Q : List Rat → Rat → Rat) (pos kw : List (Rat × Rat)) :
    paramBoundsGen Q pos kw =
      (colMin ((corners (pos ++ kw)).map (rowOf (QsOf Q))), colMax ((corners (pos ++ kw)).map (rowOf (QsOf Q)))) := by
  have h : (fun a => levelsGen.map (fun p => Q a p)) = rowOf (QsOf Q) := by
    funext c; exact (rowOf_QsOf Q c).symm
  simp only [paramBoundsGen, gen_corners_eq, h]

/-- no NaN-ignoring reduction (`np.nanmin` / `np.nanmax` would drop corners outside the family's domain) -/
theorem gen_no_nan_ignoring : nanIgnoringReductions = [] := by decide

/-- ★ a corner is handed to scipy as in the hand model: the first `nPos` values positionally, all the others by
keyword; none is dropped (`gen_call_lossless`) -/
theorem gen_call_eq : callGen = splitCall := rfl

theorem gen_call_lossless (nPos : Nat) (kwNames : List String) (a : List Rat) (h : nPos + kwNames.length = a.length) :
    (callGen nPos kwNames a).1 ++ (callGen nPos kwNames a).2.map Prod.snd = a := by
  have h2 : kwNames.length = (a.drop nPos).length := by rw [List.length_drop]; omega
  simp only [gen_call_eq, splitCall]
  rw [List.map_snd_zip (by omega), List.take_append_drop]

/-- ★ the moment intervals and their guard are the hand model's (`boundsFin`): hulls of the corner means /
    variances when they fit `[Left[0], Right[-1]]` -/
theorem gen_moments_eq (L R means vars : List Rat) (lo hi : Rat) (h1 : L.head? = some lo) (h2 : R.getLast? = some hi) :
    momentsGen L R means vars = some
      (if momentsFit lo hi (minL 0 means) (maxL 0 means) (maxL 0 vars)
       then some ⟨minL 0 means, maxL 0 means, minL 0 vars, maxL 0 vars⟩ else none) := by
  simp only [momentsGen, h1, h2, momentsFit]
  rfl

theorem gen_leaf_wiring : leafWiring = [("left", "left"), ("right", "right"), ("mean", "mean"), ("var", "var")] := by decide

theorem gen_wrapper_passes_all : wrapperPassesAll = true := by decide

/-- ★ the executed hand model computes its bounds from exactly the generated `(Left, Right)` -/
theorem gen_matches_model (Q : List Rat → Rat → Rat) (M V : List Rat → Rat) (pos kw : List PSpec) (t : Table)
    (bp bk : List (Rat × Rat)) (out : Out)
    (hbox : boxOf pos kw = .ok (bp ++ bk)) (ht : TableOf t (bp ++ bk) (QsOf Q) M V)
    (hout : parametric true pos kw t = some (.ok out)) :
    pboxInit (paramBoundsGen Q bp bk).1 (paramBoundsGen Q bp bk).2 = .ok (out.left, out.right) := by
  obtain ⟨c0, cs, hc⟩ := List.exists_cons_of_ne_nil (corners_ne_nil (bp ++ bk))
  obtain ⟨hp, _⟩ := parametric_out hbox ht hc hout
  rw [gen_bounds_eq, hc, colMin_rows, colMax_rows]
  exact hp

/-- ★ enclosure, re-proved for what the source says now: every member `θ` of the box has its quantile at every
    generated level between the generated bounds, for families monotone in each parameter separately -/
theorem gen_envelope_encloses (Q : List Rat → Rat → Rat) (pos kw : List (Rat × Rat)) (θ : List Rat)
    (hQ : ∀ p ∈ levelsGen, CoordMono (pos ++ kw) (fun c => Q c p)) (hθ : InBox (pos ++ kw) θ) :
    List.Forall₂ (· ≤ ·) (paramBoundsGen Q pos kw).1 (levelsGen.map (fun p => Q θ p)) ∧
    List.Forall₂ (· ≤ ·) (levelsGen.map (fun p => Q θ p)) (paramBoundsGen Q pos kw).2 := by
  obtain ⟨c0, cs, hc⟩ := List.exists_cons_of_ne_nil (corners_ne_nil (pos ++ kw))
  have hQ' : ∀ f ∈ QsOf Q, CoordMono (pos ++ kw) f := by
    intro f hf
    obtain ⟨p, hp, rfl⟩ := List.mem_map.mp hf
    exact hQ p hp
  rw [gen_bounds_eq, hc, colMin_rows, colMax_rows, ← rowOf_QsOf]
  exact corner_hull_rows hc hQ' hθ

/-- non-vacuity: the generated functions on a concrete box (loc ∈ [0,1] positional, scale ∈ [1,2] by keyword) -/
example : cornersGen [(0, 1)] [(1, 2)] = [[0, 1], [0, 2], [1, 1], [1, 2]] := by decide +kernel
example : callGen 1 ["scale"] [0, 2] = ([0], [("scale", 2)]) := by decide +kernel
example : CoordMono ([(0, 1)] ++ [(1, 2)]) (fun c => lsQ (-1) c) := locscale_instance _ _ (by simp)

end Pun.Gen.Param
