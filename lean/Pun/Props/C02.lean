import Pun.Lemmas.PBoxFrechet2
import Pun.Lemmas.PBoxRecip
/-!
# C02 — default (Frechet) p-box arithmetic bounds every dependence, and tightly

The theorems are about the functions the model driver executes (`Pun.PBox.binop … .f`, i.e. the
public `add/sub/mul/div(…, 'f')`, and `Pun.PBox.frechetOp` which they route to), for lists of ANY
length `n`, ANY selection of one value per step and ANY permutation coupling `σ`.

"The k-th smallest outcome lies inside the k-th step" is stated by counting: at most `i` outcomes
lie strictly below `left[i]` and at most `n-1-i` strictly above `right[i]` (`Valid`); "the bound is
attained" says that some selection and coupling has `left[i]` (resp. `right[i]`) as its `i`-th
smallest outcome (`IsRank`).  The full statements are `C02Validity o`, `C02Tight o`, `C02Encloses o`.

Proved (all at the level of the public methods, through the constructor, negation, reciprocal, the
sign routing of the product and the zero-straddling branch naive ∩ Balch):
* **validity, in full** — `C02Validity_all : ∀ o, C02Validity o` (from `binop_f_valid`): for ALL
  well-formed operands (zero-free divisor), every selection and every coupling.  The
  straddling product is `imposition(naive, Balch)`: `naive_allValid`, `balchprod_allValid` (validity composes
  through Frechet sums: `AllValid.comp`), `Valid.imp`;
* **totality**: `binop_f_total` — the four Frechet operations never fail on well-formed operands and
  return a well-formed p-box (in particular the imposition of naive and Balch is never empty); a divisor
  with a zero bound raises (`div_zero_bound_raises`);
* **enclosure, in full** — `C02Encloses_all : ∀ o, C02Encloses o`: the Frechet result encloses the
  perfect, the opposite AND the independent result (the latter after the constructor condensed its `n²`
  values) of the same operation, for ALL well-formed operands of any sign (`corner_counts`,
  `independent_enclosed`);
* **tightness of BOTH bounds**: `C02Tight_add`, `C02Tight_sub` (full instances),
  `C02Tight_mul_onesign_partial`, `C02Tight_div_onesign_partial` (operands that do not straddle zero —
  all four sign combinations, operands touching zero included), and with the bounding selections named
  explicitly `add_f_tight`, `sub_f_tight`, `mul_f_pos_tight` (anti-diagonal couplings);
* the raw rule `frechet_op` on sorted operands: `frechet_add_tight_left`, `frechet_add_tight_right`,
  `frechet_mul_pos_valid`, `frechet_mul_pos_tight_left`.

Missing: `C02Tight .mul` / `.div` for a zero-straddling operand — and it is NOT TRUE there: naive ∩ Balch
is valid but not best possible.  Witness (model, and the real code at 200 steps with each step repeated
100 times): `X = ⟨[-2,-2],[-2,-1]⟩`, `Y = ⟨[-2,-2],[-1,1]⟩` gives `left = [-2, 0]`, while every coupling of
every selection has its second smallest product `≥ 1`.  So the `_partial` tightness theorems are the
strongest true statements of that shape.  Couplings that are not permutations: Birkhoff mixture argument, cited.
-/
namespace Pun.PBox
open Pun Finset

/-! ## the raw rule `frechet_op` on sorted operands -/

/-- **C02 tightness, sum (left bound).** There is a coupling of the left-bounding selections under
which the `i`-th smallest outcome is exactly `left[i]`. -/
theorem frechet_add_tight_left (n : Nat) (X Y : PB) (hX : WFS n X) (hY : WFS n Y) (i : Fin n)
    (l : Rat) (hl : (frechetOp (· + ·) X Y).1[i.val]? = some l) :
    ∃ σ : Equiv.Perm (Fin n),
      (univ.filter (fun m : Fin n =>
        X.left[m.val]'(by have := hX.llen; omega) + Y.left[(σ m).val]'(by have := hY.llen; omega) < l)).card ≤ i.val ∧
      i.val + 1 ≤ (univ.filter (fun m : Fin n =>
        X.left[m.val]'(by have := hX.llen; omega) + Y.left[(σ m).val]'(by have := hY.llen; omega) ≤ l)).card := by
  rw [frechetOp_eq_rawF (· + ·) add_mono2 n X Y hX hY] at hl
  exact (rawF_tight (· + ·) add_mono2 n X Y hX hY i).1 l hl

/-- **C02 tightness, sum (right bound).** -/
theorem frechet_add_tight_right (n : Nat) (X Y : PB) (hX : WFS n X) (hY : WFS n Y) (i : Fin n)
    (r : Rat) (hr : (frechetOp (· + ·) X Y).2[i.val]? = some r) :
    ∃ σ : Equiv.Perm (Fin n),
      (univ.filter (fun m : Fin n =>
        r < X.right[m.val]'(by have := hX.rlen; omega) + Y.right[(σ m).val]'(by have := hY.rlen; omega))).card ≤ n - 1 - i.val ∧
      n - i.val ≤ (univ.filter (fun m : Fin n =>
        r ≤ X.right[m.val]'(by have := hX.rlen; omega) + Y.right[(σ m).val]'(by have := hY.rlen; omega))).card := by
  rw [frechetOp_eq_rawF (· + ·) add_mono2 n X Y hX hY] at hr
  obtain ⟨σ, h⟩ := (rawF_tight (· + ·) add_mono2 n X Y hX hY i).2 r hr
  exact ⟨σ, (isRank_iff_right _ _ _).mp h⟩

/-- **C02 validity, product of non-negative operands.** -/
theorem frechet_mul_pos_valid (n : Nat) (X Y : PB) (hX : WFS n X) (hY : WFS n Y)
    (pX : NonNeg X) (pY : NonNeg Y)
    (x y : Fin n → Rat) (hx : Sel n X hX x) (hy : Sel n Y hY y) (σ : Equiv.Perm (Fin n)) (i : Fin n)
    (l r : Rat) (hl : (frechetOp (· * ·) X Y).1[i.val]? = some l)
    (hr : (frechetOp (· * ·) X Y).2[i.val]? = some r) :
    (univ.filter (fun m : Fin n => x m * y (σ m) < l)).card ≤ i.val ∧
    (univ.filter (fun m : Fin n => r < x m * y (σ m))).card ≤ n - 1 - i.val := by
  rw [frechetOp_mul_eq X Y pX pY, frechetOp_eq_rawF mulPos mulPos_mono2 n X Y hX hY] at hl hr
  have e : ∀ m, x m * y (σ m) = mulPos (x m) (y (σ m)) := fun m =>
    (mulPos_eq _ _ (sel_nonneg n X hX pX x hx m) (sel_nonneg n Y hY pY y hy _)).symm
  simp only [e]
  exact rawF_allValid mulPos mulPos_mono2 n X Y hX hY x y hx hy σ i l r hl hr

/-- **C02 tightness, product of non-negative operands (left bound).** -/
theorem frechet_mul_pos_tight_left (n : Nat) (X Y : PB) (hX : WFS n X) (hY : WFS n Y)
    (pX : NonNeg X) (pY : NonNeg Y) (i : Fin n)
    (l : Rat) (hl : (frechetOp (· * ·) X Y).1[i.val]? = some l) :
    ∃ σ : Equiv.Perm (Fin n),
      (univ.filter (fun m : Fin n =>
        X.left[m.val]'(by have := hX.llen; omega) * Y.left[(σ m).val]'(by have := hY.llen; omega) < l)).card ≤ i.val ∧
      i.val + 1 ≤ (univ.filter (fun m : Fin n =>
        X.left[m.val]'(by have := hX.llen; omega) * Y.left[(σ m).val]'(by have := hY.llen; omega) ≤ l)).card := by
  rw [frechetOp_mul_eq X Y pX pY, frechetOp_eq_rawF mulPos mulPos_mono2 n X Y hX hY] at hl
  obtain ⟨σ, h⟩ := (rawF_tight mulPos mulPos_mono2 n X Y hX hY i).1 l hl
  exact ⟨σ, h.congr (fun m => mulPos_eq _ _ (pX.1 _ (List.getElem_mem _)) (pY.1 _ (List.getElem_mem _)))⟩

/-! ## full statements -/

/-- **Full statement of C02 (validity part) for the public methods**, all four operations and all
sign configurations.  Proved in full: `C02Validity_all`. -/
def C02Validity (o : Op) : Prop :=
  ∀ (n : Nat) (X Y R : PB) (hX : WF n X) (hY : WF n Y), (o = .div → ZeroFree Y) →
    binop n o .f X Y = .ok R →
    ∀ (x y : Fin n → Rat), Sel n X hX.toWFS x → Sel n Y hY.toWFS y →
    ∀ (σ : Equiv.Perm (Fin n)) (i : Fin n) (l r : Rat), R.left[i.val]? = some l → R.right[i.val]? = some r →
      (univ.filter (fun m : Fin n => o.ap (x m) (y (σ m)) < l)).card ≤ i.val ∧
      (univ.filter (fun m : Fin n => r < o.ap (x m) (y (σ m)))).card ≤ n - 1 - i.val

/-- **Full statement of C02 (tightness part)**: every entry of either bound of the public Frechet
result is the order statistic of the same rank of the outcomes of SOME selection of one value per step
of each operand under SOME coupling — the bounds cannot be improved. -/
def C02Tight (o : Op) : Prop :=
  ∀ (n : Nat) (X Y R : PB) (hX : WF n X) (hY : WF n Y), (o = .div → ZeroFree Y) →
    binop n o .f X Y = .ok R → ∀ (i : Fin n),
      (∀ l, R.left[i.val]? = some l → ∃ x y : Fin n → Rat, Sel n X hX.toWFS x ∧ Sel n Y hY.toWFS y ∧
        ∃ σ : Equiv.Perm (Fin n), IsRank n (fun m => o.ap (x m) (y (σ m))) i l) ∧
      (∀ r, R.right[i.val]? = some r → ∃ x y : Fin n → Rat, Sel n X hX.toWFS x ∧ Sel n Y hY.toWFS y ∧
        ∃ σ : Equiv.Perm (Fin n), IsRank n (fun m => o.ap (x m) (y (σ m))) i r)

/-- **Full statement of C02 (enclosure part)**: the Frechet result encloses the result of the same
operation under every other dependency, step by step. -/
def C02Encloses (o : Op) : Prop :=
  ∀ (n : Nat) (d : Dep) (X Y F D : PB), WF n X → WF n Y → (o = .div → ZeroFree Y) →
    binop n o .f X Y = .ok F → binop n o d X Y = .ok D → Encloses F D

/-! ## `add`, and `sub` as Frechet addition of the negated operand -/

/-- **The public method** `X.add(Y, dependency='f')` (and the bare `X + Y` under the default
setting) returns exactly the raw Frechet bounds — the constructor's switch, length normalisation and
monotonicity check all pass — and the result is again well formed. -/
theorem add_f_good (n : Nat) (X Y : PB) (hX : WF n X) (hY : WF n Y) :
    add n .f X Y = .ok (rawF (· + ·) X Y) ∧ WF n (rawF (· + ·) X Y) ∧
    Good n (· + ·) X Y (rawF (· + ·) X Y) hX.toWFS hY.toWFS :=
  good_frechet (· + ·) add_mono2 n X Y hX hY

/-- subtraction is Frechet addition of the negated operand, and negation mirrors selections and
couplings (`y ↦ -y ∘ rev`, `σ ↦ rev ∘ σ`) -/
theorem sub_f_good (n : Nat) (X Y : PB) (hX : WF n X) (hY : WF n Y) :
    sub n .f X Y = .ok (rawF (· + ·) X (negB Y)) ∧ WF n (rawF (· + ·) X (negB Y)) ∧
    Good n (· - ·) X Y (rawF (· + ·) X (negB Y)) hX.toWFS hY.toWFS := by
  obtain ⟨en, wn⟩ := neg_wf n Y hY
  obtain ⟨e, w, g⟩ := add_f_good n X (negB Y) hX wn
  refine ⟨?_, w, ?_⟩
  · simp only [sub, en, swapPO, bind, Except.bind]
    exact e
  · exact (g.flipY _ _ antiInv_neg hY.toWFS (inS_true Y) wn.toWFS).congr
      (fun a b => (sub_eq_add_neg a b).symm)

theorem tight_of_good {n : Nat} {op : Rat → Rat → Rat} {X Y R R' : PB} {hX : WFS n X} {hY : WFS n Y}
    {E : Except Err PB} (e : E = .ok R') (g : Good n op X Y R' hX hY) (hR : E = .ok R) (i : Fin n) :
    (∀ l, R.left[i.val]? = some l → Attained n op X Y hX hY i l) ∧
    (∀ r, R.right[i.val]? = some r → Attained n op X Y hX hY i r) := by
  rw [e] at hR
  obtain rfl := Except.ok.inj hR
  exact ⟨g.tightL i, g.tightR i⟩

/-- C02 tightness for the public `add` / bare `+`, both bounds -/
theorem C02Tight_add : C02Tight .add := by
  intro n X Y R hX hY _ hR i
  obtain ⟨e, -, g⟩ := add_f_good n X Y hX hY
  exact tight_of_good e g hR i

/-- C02 tightness for the public `sub` / bare `-`, both bounds -/
theorem C02Tight_sub : C02Tight .sub := by
  intro n X Y R hX hY _ hR i
  obtain ⟨e, -, g⟩ := sub_f_good n X Y hX hY
  exact tight_of_good e g hR i

/-- tightness of `add`, naming the selections: the left bound is attained by the two left bounds, the
right bound by the two right bounds, under the anti-diagonal couplings -/
theorem add_f_tight (n : Nat) (X Y R : PB) (hX : WF n X) (hY : WF n Y)
    (hR : binop n .add .f X Y = .ok R) (i : Fin n) :
    (∀ l, R.left[i.val]? = some l → ∃ σ : Equiv.Perm (Fin n),
      IsRank n (fun m => X.left[m.val]'(by have := hX.llen; omega) +
        Y.left[(σ m).val]'(by have := hY.llen; omega)) i l) ∧
    (∀ r, R.right[i.val]? = some r → ∃ σ : Equiv.Perm (Fin n),
      IsRank n (fun m => X.right[m.val]'(by have := hX.rlen; omega) +
        Y.right[(σ m).val]'(by have := hY.rlen; omega)) i r) := by
  obtain ⟨e, -, -⟩ := add_f_good n X Y hX hY
  simp only [binop] at hR
  rw [e] at hR
  obtain rfl := Except.ok.inj hR
  exact rawF_tight (· + ·) add_mono2 n X Y hX.toWFS hY.toWFS i

/-- tightness of `sub`, naming the selections: the left bound of `X - Y` is attained by `X.left` against
`Y.right`, the right bound by `X.right` against `Y.left` -/
theorem sub_f_tight (n : Nat) (X Y R : PB) (hX : WF n X) (hY : WF n Y)
    (hR : binop n .sub .f X Y = .ok R) (i : Fin n) :
    (∀ l, R.left[i.val]? = some l → ∃ σ : Equiv.Perm (Fin n),
      IsRank n (fun m => X.left[m.val]'(by have := hX.llen; omega) -
        Y.right[(σ m).val]'(by have := hY.rlen; omega)) i l) ∧
    (∀ r, R.right[i.val]? = some r → ∃ σ : Equiv.Perm (Fin n),
      IsRank n (fun m => X.right[m.val]'(by have := hX.rlen; omega) -
        Y.left[(σ m).val]'(by have := hY.llen; omega)) i r) := by
  obtain ⟨e, -, -⟩ := sub_f_good n X Y hX hY
  obtain ⟨-, wn⟩ := neg_wf n Y hY
  simp only [binop] at hR
  rw [e] at hR
  obtain rfl := Except.ok.inj hR
  obtain ⟨t1, t2⟩ := rawF_tight (· + ·) add_mono2 n X (negB Y) hX.toWFS wn.toWFS i
  -- entry `σ m` of a bound of `-Y` is minus entry `rev (σ m)` of the other bound of `Y`
  constructor
  · intro l hl'
    obtain ⟨σ, h⟩ := t1 l hl'
    refine ⟨σ.trans Fin.revPerm, ?_⟩
    simp only [flipB_left_getElem _ Y hY.rlen, ← sub_eq_add_neg] at h
    exact h
  · intro r hr'
    obtain ⟨σ, h⟩ := t2 r hr'
    refine ⟨σ.trans Fin.revPerm, ?_⟩
    simp only [flipB_right_getElem _ Y hY.llen, ← sub_eq_add_neg] at h
    exact h

/-! ## `mul` on operands of one sign each (sign routing through `negativeFrechet`), `div` as the product
with the reciprocal -/

/-- C02 tightness for the public `mul` on operands of one sign each, both bounds.  Partial: for a
zero-straddling operand `C02Tight .mul` does not hold (see the file header for a witness). -/
theorem C02Tight_mul_onesign_partial (n : Nat) (X Y R : PB) (hX : WF n X) (hY : WF n Y)
    (sX : OneSign X) (sY : OneSign Y) (hR : binop n .mul .f X Y = .ok R) (i : Fin n) :
    (∀ l, R.left[i.val]? = some l → ∃ x y : Fin n → Rat, Sel n X hX.toWFS x ∧ Sel n Y hY.toWFS y ∧
      ∃ σ : Equiv.Perm (Fin n), IsRank n (fun m => x m * y (σ m)) i l) ∧
    (∀ r, R.right[i.val]? = some r → ∃ x y : Fin n → Rat, Sel n X hX.toWFS x ∧ Sel n Y hY.toWFS y ∧
      ∃ σ : Equiv.Perm (Fin n), IsRank n (fun m => x m * y (σ m)) i r) := by
  obtain ⟨R', e, -, g⟩ := mul_f_onesign_good n X Y hX hY sX sY
  exact tight_of_good e g hR i

/-- C02 tightness for the public `div`, both bounds.  Partial: a zero-straddling dividend goes through
naive ∩ Balch, which is not best possible. -/
theorem C02Tight_div_onesign_partial (n : Nat) (X Y R : PB) (hX : WF n X) (hY : WF n Y)
    (sX : OneSign X) (z : ZeroFree Y) (hR : binop n .div .f X Y = .ok R) (i : Fin n) :
    (∀ l, R.left[i.val]? = some l → ∃ x y : Fin n → Rat, Sel n X hX.toWFS x ∧ Sel n Y hY.toWFS y ∧
      ∃ σ : Equiv.Perm (Fin n), IsRank n (fun m => x m / y (σ m)) i l) ∧
    (∀ r, R.right[i.val]? = some r → ∃ x y : Fin n → Rat, Sel n X hX.toWFS x ∧ Sel n Y hY.toWFS y ∧
      ∃ σ : Equiv.Perm (Fin n), IsRank n (fun m => x m / y (σ m)) i r) := by
  obtain ⟨R', e, -, g⟩ := div_f_onesign_good n X Y hX hY sX z
  exact tight_of_good e g hR i

/-- tightness of the product of non-negative, not identically zero operands, naming the selections:
left bounds against left bounds, right bounds against right bounds, anti-diagonal couplings -/
theorem mul_f_pos_tight (n : Nat) (X Y R : PB) (hX : WF n X) (hY : WF n Y) (pX : NonNeg X) (pY : NonNeg Y)
    (hxh : 0 < hi X) (hyh : 0 < hi Y) (hR : binop n .mul .f X Y = .ok R) (i : Fin n) :
    (∀ l, R.left[i.val]? = some l → ∃ σ : Equiv.Perm (Fin n),
      IsRank n (fun m => X.left[m.val]'(by have := hX.llen; omega) *
        Y.left[(σ m).val]'(by have := hY.llen; omega)) i l) ∧
    (∀ r, R.right[i.val]? = some r → ∃ σ : Equiv.Perm (Fin n),
      IsRank n (fun m => X.right[m.val]'(by have := hX.rlen; omega) *
        Y.right[(σ m).val]'(by have := hY.rlen; omega)) i r) := by
  -- both upper ends positive: the model takes the classic rule, which returns the bounds of the clamped product
  have e : binop n .mul .f X Y = classicFrechet n (· * ·) X Y := by
    simp [binop, mul, frechetMul, frechetMulNoStraddle, not_straddles_of_nonneg X pX, not_straddles_of_nonneg Y pY,
      not_le.mpr hxh, not_le.mpr hyh]
  rw [e, (good_mul_nonneg n X Y hX hY pX pY).1] at hR
  obtain rfl := Except.ok.inj hR
  obtain ⟨t1, t2⟩ := rawF_tight mulPos mulPos_mono2 n X Y hX.toWFS hY.toWFS i
  constructor
  · intro l hl
    obtain ⟨σ, h⟩ := t1 l hl
    exact ⟨σ, h.congr (fun m => mulPos_eq _ _ (pX.1 _ (List.getElem_mem _)) (pY.1 _ (List.getElem_mem _)))⟩
  · intro r hr
    obtain ⟨σ, h⟩ := t2 r hr
    exact ⟨σ, h.congr (fun m => mulPos_eq _ _ (pX.2 _ (List.getElem_mem _)) (pY.2 _ (List.getElem_mem _)))⟩

/-- a divisor with a zero bound is rejected (`TypeError` from the reflected division) -/
theorem div_zero_bound_raises (n : Nat) (d : Dep) (X Y : PB) (h : (0 : Rat) ∈ Y.left ∨ (0 : Rat) ∈ Y.right) :
    binop n .div d X Y = .error .Type := by
  obtain ⟨e, he⟩ := recip_zero_raises n Y h
  simp only [binop, div, he, bind, Except.bind]

/-! ## validity and totality for ALL well-formed operands -/

/-- **the public Frechet operations on ANY well-formed operands (zero-free divisor) return a well-formed p-box that
is valid for every selection and coupling.**  `add` and `sub` through the raw rule; `mul`
through the sign routing (`mul_f_onesign_good`) or, as soon as one operand straddles zero, through
`imposition(naive, Balch)`; `div` as the product with the reciprocal. -/
theorem binop_f_valid (o : Op) (n : Nat) (X Y : PB) (hX : WF n X) (hY : WF n Y) (z : o = .div → ZeroFree Y) :
    ∃ R, binop n o .f X Y = .ok R ∧ WF n R ∧ AllValid n o.ap X Y R hX.toWFS hY.toWFS := by
  cases o with
  | add =>
    obtain ⟨e, w, g⟩ := add_f_good n X Y hX hY
    exact ⟨_, e, w, g.allValid⟩
  | sub =>
    obtain ⟨e, w, g⟩ := sub_f_good n X Y hX hY
    exact ⟨_, e, w, g.allValid⟩
  | mul => exact mul_f_valid n X Y hX hY
  | div => exact div_f_valid n X Y hX hY (z rfl)

theorem binop_f_allValid (o : Op) (n : Nat) (X Y R : PB) (hX : WF n X) (hY : WF n Y) (z : o = .div → ZeroFree Y)
    (hR : binop n o .f X Y = .ok R) : WF n R ∧ AllValid n o.ap X Y R hX.toWFS hY.toWFS := by
  obtain ⟨R', e, w, v⟩ := binop_f_valid o n X Y hX hY z
  rw [e] at hR
  obtain rfl := Except.ok.inj hR
  exact ⟨w, v⟩

/-- **C02, validity part, in full**: all four operations, all well-formed operands (zero-free divisor) -/
theorem C02Validity_all (o : Op) : C02Validity o :=
  fun n X Y R hX hY z hR => (binop_f_allValid o n X Y R hX hY z hR).2

/-- the public Frechet operations never fail on well-formed operands (zero-free divisor) and return a
well-formed p-box -/
theorem binop_f_total (o : Op) (n : Nat) (X Y : PB) (hX : WF n X) (hY : WF n Y) (z : o = .div → ZeroFree Y) :
    ∃ R, binop n o .f X Y = .ok R ∧ WF n R := by
  obtain ⟨R, e, w, -⟩ := binop_f_valid o n X Y hX hY z
  exact ⟨R, e, w⟩

/-! ## Frechet encloses the perfect, the opposite and the independent result -/

theorem encloses_refl (F : PB) : Encloses F F := by
  intro k l r dl dr hl hr hdl hdr
  rw [hl] at hdl; rw [hr] at hdr
  rw [← Option.some.inj hdl, ← Option.some.inj hdr]
  exact ⟨le_refl _, le_refl _⟩

theorem binop_dep_eq (o : Op) (ho : o = .add ∨ o = .mul) (n : Nat) (X Y : PB) :
    binop n o .p X Y = mk n false (perfectOp o.ap X Y).1 (perfectOp o.ap X Y).2 ∧
    binop n o .o X Y = mk n false (oppositeOp o.ap X Y).1 (oppositeOp o.ap X Y).2 ∧
    binop n o .i X Y = mk n false (independentOp o.ap X Y).1 (independentOp o.ap X Y).2 ∧
    ∃ e, binop n o .unknown X Y = .error e := by
  rcases ho with rfl | rfl
  · exact ⟨rfl, rfl, rfl, _, rfl⟩
  · exact ⟨rfl, rfl, rfl, _, rfl⟩

/-- **C02 enclosure for the public `add` and `mul`**: the Frechet result encloses the perfect, the opposite
and the independent result (the latter after the constructor condensed its `n²` values) of ANY well-formed
operands (any signs, zero-straddling included). -/
theorem C02Encloses_direct (o : Op) (ho : o = .add ∨ o = .mul) : C02Encloses o := by
  intro n d X Y F D hX hY z hF hD
  obtain ⟨wF, v⟩ := binop_f_allValid o n X Y F hX hY z hF
  obtain ⟨ep, eo, ei, e, eu⟩ := binop_dep_eq o ho n X Y
  cases d with
  | f =>
    rw [hF] at hD
    obtain rfl := Except.ok.inj hD
    exact encloses_refl _
  | p => exact perfect_enclosed o.ap n X Y F D hX hY wF.llen v (ep ▸ hD)
  | o => exact opposite_enclosed o.ap n X Y F D hX hY wF.llen v (eo ▸ hD)
  | i => exact independent_enclosed o.ap n X Y F D hX hY wF.llen v (ei ▸ hD)
  | unknown =>
    rw [eu] at hD
    cases hD

/-- **C02 enclosure for the public `sub`**: `X.sub(Y, d) = X.add(-Y, swapped d)` -/
theorem C02Encloses_sub : C02Encloses .sub := by
  intro n d X Y F D hX hY _ hF hD
  obtain ⟨en, wn⟩ := neg_wf n Y hY
  simp only [binop, sub, en, bind, Except.bind] at hF hD
  exact C02Encloses_direct .add (Or.inl rfl) n (swapPO d) X (negB Y) F D hX wn (fun h => by cases h) hF hD

/-- **C02 enclosure for the public `div`** (zero-free divisor): `X.div(Y, d) = X.mul(1/Y, swapped d)` -/
theorem C02Encloses_div : C02Encloses .div := by
  intro n d X Y F D hX hY z hF hD
  obtain ⟨-, w, -, -⟩ := recip_ok n Y hY (z rfl)
  simp only [binop, div_eq_mul_recip n _ X Y hY (z rfl)] at hF hD
  exact C02Encloses_direct .mul (Or.inr rfl) n (swapPO d) X (recipB Y) F D hX w (fun h => by cases h) hF hD

/-- **C02, enclosure part, in full**: all four operations, all well-formed operands, every dependency -/
theorem C02Encloses_all (o : Op) : C02Encloses o := by
  cases o with
  | add => exact C02Encloses_direct .add (Or.inl rfl)
  | sub => exact C02Encloses_sub
  | mul => exact C02Encloses_direct .mul (Or.inr rfl)
  | div => exact C02Encloses_div

/-! non-vacuity: a concrete pair of 3-step boxes meets the hypotheses, and the rule computes -/
example : WFS 3 ⟨[1, 2, 3], [2, 3, 4]⟩ := ⟨rfl, rfl, by decide, by decide⟩
example : frechetLeftRaw (· + ·) [1, 2, 3] [0, 1, 5] = [1, 2, 6] := by decide +kernel
example : frechetRightRaw (· + ·) [2, 3, 4] [1, 2, 6] = [5, 6, 10] := by decide +kernel
example : NonNeg ⟨[1, 2, 3], [2, 3, 4]⟩ := by constructor <;> decide

example : OneSign ⟨[-3, -2, 0], [-2, -1, 0]⟩ := Or.inr (by constructor <;> decide)
example : ZeroFree ⟨[1, 2, 3], [2, 3, 4]⟩ := Or.inl (by decide)
example : WF 2 ⟨[-3, -2], [-2, 0]⟩ := ⟨⟨rfl, rfl, by decide, by decide⟩, by decide⟩
example : ∃ R, binop 2 .mul .f ⟨[-3, -2], [-2, 0]⟩ ⟨[1, 2], [2, 4]⟩ = .ok R ∧ WF 2 R :=
  binop_f_total .mul 2 _ _ ⟨⟨rfl, rfl, by decide, by decide⟩, by decide⟩ ⟨⟨rfl, rfl, by decide, by decide⟩, by decide⟩
    (fun h => by cases h)
example : ∃ R, binop 2 .div .f ⟨[1, 2], [2, 4]⟩ ⟨[-4, -2], [-2, -1]⟩ = .ok R ∧ WF 2 R :=
  binop_f_total .div 2 _ _ ⟨⟨rfl, rfl, by decide, by decide⟩, by decide⟩ ⟨⟨rfl, rfl, by decide, by decide⟩, by decide⟩
    (fun _ => Or.inr (by decide))

/-! a zero-straddling pair meets the hypotheses of `C02Validity .mul` / `.div` -/
example : WF 2 ⟨[-3, 1], [-1, 2]⟩ := ⟨⟨rfl, rfl, by decide, by decide⟩, by decide⟩
example : ∃ R, binop 2 .mul .f ⟨[-3, 1], [-1, 2]⟩ ⟨[-2, 1], [0, 4]⟩ = .ok R ∧ WF 2 R :=
  binop_f_total .mul 2 _ _ ⟨⟨rfl, rfl, by decide, by decide⟩, by decide⟩ ⟨⟨rfl, rfl, by decide, by decide⟩, by decide⟩
    (fun h => by cases h)
example : ∃ R, binop 2 .div .f ⟨[-3, 1], [-1, 2]⟩ ⟨[1, 2], [2, 4]⟩ = .ok R ∧ WF 2 R :=
  binop_f_total .div 2 _ _ ⟨⟨rfl, rfl, by decide, by decide⟩, by decide⟩ ⟨⟨rfl, rfl, by decide, by decide⟩, by decide⟩
    (fun _ => Or.inl (by decide))

/-! the hypotheses of `C02Encloses .mul` are satisfiable with a zero-straddling pair: both runs return -/
example : ∃ F D, binop 2 .mul .f ⟨[-3, 1], [-1, 2]⟩ ⟨[-2, 1], [0, 4]⟩ = .ok F ∧
    binop 2 .mul .p ⟨[-3, 1], [-1, 2]⟩ ⟨[-2, 1], [0, 4]⟩ = .ok D := by
  have hX : WF 2 ⟨[-3, 1], [-1, 2]⟩ := ⟨⟨rfl, rfl, by decide, by decide⟩, by decide⟩
  have hY : WF 2 ⟨[-2, 1], [0, 4]⟩ := ⟨⟨rfl, rfl, by decide, by decide⟩, by decide⟩
  obtain ⟨F, eF, -, -⟩ := mul_f_valid 2 _ _ hX hY
  exact ⟨F, _, eF, mk_cornerPair_ok (· * ·) 2 [-3, 1] [-1, 2] [-2, 1] [0, 4] rfl rfl rfl rfl⟩

end Pun.PBox
