import Pun.Lemmas.Grid
import Pun.Gen.GridGen
import Mathlib.Tactic.FieldSimp
import Mathlib.Tactic.Positivity
import Mathlib.Tactic.NormNum
/-!
# C08 — Dempster–Shafer structures convert to their belief / plausibility p-box

All theorems are about `Pun.Dss.stacking` / `Pun.Dss.roundtrip`, the functions the driver executes,
for ANY grid `g` of levels in `(0,1]` and any number of focal elements; the last section instantiates
the grid hypotheses for the grid regenerated from `params.py` (`Pun.Gen.pValues`).

* `stacking_geninv`         ★ left/right bound at every grid level = generalised inverse of the
                              plausibility / belief function (smallest endpoint whose cumulated mass reaches the level)
* `stacking_perm_invariant` ★ any listing order of the focal elements gives the same p-box
* `stacking_split_invariant`★ a focal element split into copies sharing its mass gives the same p-box
* `roundtrip_id`            ★ `to_dss().to_pbox()` is the identity on well-formed p-boxes
* `stacking_same_cmp`       ★ the masses enter only through the comparisons of their running sums with the levels
* `grid_hit`                ○ a cumulated mass equal to the level selects that focal element
-/
namespace Pun.Props.C08
open Pun Pun.Grid Pun.Dss

def GridOK (g : List ℚ) : Prop := (∀ p ∈ g, 0 < p ∧ p ≤ 1) ∧ g.Pairwise (· ≤ ·)

theorem mapOpt_spec (f : ℚ → Option ℚ) (Q : ℚ → ℚ → Prop) (g : List ℚ)
    (h : ∀ p ∈ g, ∃ v, f p = some v ∧ Q p v) :
    ∃ l, mapOpt f g = some l ∧ l.length = g.length ∧
      ∀ (i : Nat) (p : ℚ), g[i]? = some p → ∃ a, l[i]? = some a ∧ Q p a := by
  induction g with
  | nil => exact ⟨[], rfl, rfl, by simp⟩
  | cons x r ih =>
    obtain ⟨v, hv, hq⟩ := h x (by simp)
    obtain ⟨l, hl, hlen, hspec⟩ := ih (fun p hp => h p (List.mem_cons_of_mem _ hp))
    refine ⟨v :: l, by simp only [mapOpt, hv, hl], by simp [hlen], ?_⟩
    intro i p hp
    cases i with
    | zero => simp only [List.getElem?_cons_zero, Option.some.injEq] at hp; subst hp; exact ⟨v, by simp, hq⟩
    | succ j => simp only [List.getElem?_cons_succ] at hp ⊢; exact hspec j p hp

theorem bound_spec (g s w : List ℚ) (hv : ValidW s w) (hg : GridOK g) :
    ∃ e l, getEcdf s w = some e ∧ bound g e = some l ∧ GenInvOn g (massLE (s.zip w)) l := by
  obtain ⟨e0, he0⟩ := getEcdf_some s w (zip_ne_nil hv.ne hv.len)
  obtain ⟨l, hl, hspec⟩ := mapOpt_spec _ _ g fun p hp => model_geninv s w hv p (hg.1 p hp).1 (hg.1 p hp).2 he0
  exact ⟨e0, l, he0, hl, hspec⟩

theorem bel_le_pl (lo hi w : List ℚ) (hlen : lo.length = hi.length) (hle : allLE lo hi = true)
    (hw : ∀ x ∈ w, 0 ≤ x) (t : ℚ) :
    massLE (hi.zip w) t ≤ massLE (lo.zip w) t := by
  induction lo generalizing hi w with
  | nil =>
    cases hi with
    | nil => simp [massLE]
    | cons y hi => simp at hlen
  | cons x lo ih =>
    cases hi with
    | nil => simp at hlen
    | cons y hi =>
      cases w with
      | nil => simp [massLE]
      | cons m w =>
        simp only [allLE, Bool.and_eq_true, decide_eq_true_eq] at hle
        have hm : 0 ≤ m := hw m (by simp)
        have := ih hi w (by simpa using hlen) hle.2 (fun x hx => hw x (List.mem_cons_of_mem _ hx))
        simp only [List.zip_cons_cons, massLE]
        by_cases h1 : y ≤ t
        · have h2 : x ≤ t := le_trans hle.1 h1
          simp only [h1, h2, if_true]; linarith
        · simp only [h1, if_false]; split <;> linarith

theorem switch_of_allLE {l r : List ℚ} (hlen : l.length = r.length) (h : allLE l r = true) : switch l r = ⟨l, r⟩ := by
  unfold switch
  split
  · next hge =>
    rw [allGE_eq_allLE] at hge
    have : l = r := List.ext_getElem hlen fun i hi hi' =>
      le_antisymm ((allLE_iff_get l r).mp h i _ _ (List.getElem?_eq_getElem hi) (List.getElem?_eq_getElem hi'))
        ((allLE_iff_get r l).mp hge i _ _ (List.getElem?_eq_getElem hi') (List.getElem?_eq_getElem hi))
    rw [this]
  · rfl

theorem stacking_genInvOn (g lo hi w : List ℚ) (hlen : lo.length = hi.length) (hv : ValidW lo w)
    (hle : allLE lo hi = true) (hg : GridOK g) :
    ∃ l r, stacking g lo hi (some w) = .ok ⟨l, r⟩ ∧
      GenInvOn g (massLE (lo.zip w)) l ∧ GenInvOn g (massLE (hi.zip w)) r := by
  have hv2 : ValidW hi w := hv.of_length_eq hlen
  obtain ⟨e1, l, he1, hl, hL⟩ := bound_spec g lo w hv hg
  obtain ⟨e2, r, he2, hr, hR⟩ := bound_spec g hi w hv2 hg
  have hpos : ¬ hi.length < 1 := by
    have := List.length_pos_iff.mpr hv2.ne; omega
  have hsl : sortedB l = true := (sortedB_iff_pairwise l).mpr (hL.sorted hg.2)
  have hsr : sortedB r = true := (sortedB_iff_pairwise r).mpr (hR.sorted hg.2)
  have hlr : allLE l r = true := (allLE_iff_get l r).mpr fun i a b =>
    hL.get_le hg.2 (bel_le_pl lo hi w hlen hle hv.nonneg) hR (le_refl i)
  refine ⟨l, r, ?_, hL, hR⟩
  simp only [stacking, hlen, ne_eq, not_true_eq_false, if_false, hle, Bool.not_true, Bool.false_eq_true,
    weightsOf, hv2.len.symm, he1, he2, hl, hr, hpos, switch_of_allLE (hL.1.trans hR.1.symm) hlr, wfB, hsl, hsr, hlr,
    Bool.and_self, if_true]

/-- `weights=None` is the equal-mass call -/
theorem stacking_none (g lo hi : List ℚ) :
    stacking g lo hi none = stacking g lo hi (some (equalW lo.length)) := rfl

/-- ★ `stacking` on a valid DS structure (at least one focal interval, `lo ≤ hi`, non-negative masses summing
to one): it succeeds, and at every grid level the left bound is the generalised inverse of the plausibility
function `t ↦ Σ{m_k | lo_k ≤ t}` and the right bound that of the belief function `t ↦ Σ{m_k | hi_k ≤ t}`. -/
theorem stacking_geninv (g lo hi w : List ℚ) (hlen : lo.length = hi.length) (hv : ValidW lo w)
    (hle : allLE lo hi = true) (hg : GridOK g) :
    ∃ P, stacking g lo hi (some w) = .ok P ∧ P.left.length = g.length ∧ P.right.length = g.length ∧
      ∀ (i : Nat) (p : ℚ), g[i]? = some p → ∃ a b, P.left[i]? = some a ∧ P.right[i]? = some b ∧
        IsGenInv (massLE (lo.zip w)) p a ∧ IsGenInv (massLE (hi.zip w)) p b := by
  obtain ⟨l, r, hst, hL, hR⟩ := stacking_genInvOn g lo hi w hlen hv hle hg
  refine ⟨⟨l, r⟩, hst, hL.1, hR.1, fun i p hp => ?_⟩
  obtain ⟨a, ha, hga⟩ := hL.2 i p hp
  obtain ⟨b, hb, hgb⟩ := hR.2 i p hp
  exact ⟨a, b, ha, hb, hga, hgb⟩

example : ValidW [1, 2] [1/2, 1/2] ∧ allLE [1, 2] [3, 4] = true ∧ GridOK [1/4, 3/4] :=
  ⟨⟨rfl, by simp, by intro x hx; simp at hx; subst hx; norm_num, by norm_num⟩, by decide +kernel,
   by intro p hp; simp at hp; rcases hp with rfl | rfl <;> norm_num, by norm_num⟩

theorem stacking_eq_of_same_mass (g lo hi w lo' hi' w' : List ℚ)
    (hlen : lo.length = hi.length) (hv : ValidW lo w) (hle : allLE lo hi = true)
    (hlen' : lo'.length = hi'.length) (hv' : ValidW lo' w') (hle' : allLE lo' hi' = true) (hg : GridOK g)
    (hpl : ∀ t, massLE (lo.zip w) t = massLE (lo'.zip w') t)
    (hbel : ∀ t, massLE (hi.zip w) t = massLE (hi'.zip w') t) :
    stacking g lo hi (some w) = stacking g lo' hi' (some w') := by
  obtain ⟨l, r, hP, hL, hR⟩ := stacking_genInvOn g lo hi w hlen hv hle hg
  obtain ⟨l', r', hP', hL', hR'⟩ := stacking_genInvOn g lo' hi' w' hlen' hv' hle' hg
  rw [funext hpl] at hL
  rw [funext hbel] at hR
  rw [hP, hP', hL.unique hL', hR.unique hR']

/-! ## focal elements as triples `(lo, hi, mass)` : order and splitting -/

abbrev Focal := ℚ × ℚ × ℚ
def los (F : List Focal) : List ℚ := F.map (·.1)
def his (F : List Focal) : List ℚ := F.map (·.2.1)
def ms (F : List Focal) : List ℚ := F.map (·.2.2)

def stackF (g : List ℚ) (F : List Focal) : Except Err PB := stacking g (los F) (his F) (some (ms F))

structure ValidDS (F : List Focal) : Prop where
  ne : F ≠ []
  ivl : ∀ f ∈ F, f.1 ≤ f.2.1
  nonneg : ∀ f ∈ F, 0 ≤ f.2.2
  sum1 : (ms F).sum = 1

theorem zip_lo (F : List Focal) : (los F).zip (ms F) = F.map (fun f => (f.1, f.2.2)) := List.zip_map'

theorem zip_hi (F : List Focal) : (his F).zip (ms F) = F.map (fun f => (f.2.1, f.2.2)) := List.zip_map'

theorem validW_of_valid (F : List Focal) (h : ValidDS F) : ValidW (los F) (ms F) :=
  ⟨by simp [los, ms], by simpa [los] using h.ne,
   by intro x hx; simp only [ms, List.mem_map] at hx; obtain ⟨f, hf, rfl⟩ := hx; exact h.nonneg f hf, h.sum1⟩

/-- plausibility / belief cumulative functions of a DS structure -/
def pl (F : List Focal) (t : ℚ) : ℚ := massLE (F.map (fun f => (f.1, f.2.2))) t
def bel (F : List Focal) (t : ℚ) : ℚ := massLE (F.map (fun f => (f.2.1, f.2.2))) t

/-- ★ the statement of the property for a list of focal elements -/
theorem stackF_geninv (g : List ℚ) (F : List Focal) (hF : ValidDS F) (hg : GridOK g) :
    ∃ P, stackF g F = .ok P ∧ P.left.length = g.length ∧ P.right.length = g.length ∧
      ∀ (i : Nat) (p : ℚ), g[i]? = some p → ∃ a b, P.left[i]? = some a ∧ P.right[i]? = some b ∧
        IsGenInv (pl F) p a ∧ IsGenInv (bel F) p b := by
  have := stacking_geninv g (los F) (his F) (ms F) (by simp [los, his]) (validW_of_valid F hF)
    ((allLE_map_iff _ _ F).mpr hF.ivl) hg
  rw [zip_lo, zip_hi] at this
  exact this

theorem stackF_eq_of_same_mass (g : List ℚ) (F F' : List Focal) (hF : ValidDS F) (hF' : ValidDS F') (hg : GridOK g)
    (hpl : ∀ t, pl F t = pl F' t) (hbel : ∀ t, bel F t = bel F' t) : stackF g F = stackF g F' :=
  stacking_eq_of_same_mass g (los F) (his F) (ms F) (los F') (his F') (ms F') (by simp [los, his])
    (validW_of_valid F hF) ((allLE_map_iff _ _ F).mpr hF.ivl) (by simp [los, his]) (validW_of_valid F' hF')
    ((allLE_map_iff _ _ F').mpr hF'.ivl) hg (fun t => by rw [zip_lo, zip_lo]; exact hpl t)
    (fun t => by rw [zip_hi, zip_hi]; exact hbel t)

theorem ValidDS.perm {F F' : List Focal} (h : F.Perm F') (hF : ValidDS F) : ValidDS F' :=
  ⟨by intro h0; subst h0; exact hF.ne (List.Perm.eq_nil h), fun f hf => hF.ivl f (h.mem_iff.mpr hf),
   fun f hf => hF.nonneg f (h.mem_iff.mpr hf), by rw [← hF.sum1]; exact (sum_perm (h.map _)).symm⟩

/-- ★ the p-box does not depend on the order in which the focal elements are listed -/
theorem stacking_perm_invariant (g : List ℚ) (F F' : List Focal) (h : F.Perm F') (hF : ValidDS F) (hg : GridOK g) :
    stackF g F = stackF g F' :=
  stackF_eq_of_same_mass g F F' hF (hF.perm h) hg
    (fun t => massLE_perm (h.map _) t) (fun t => massLE_perm (h.map _) t)

/-- ★ splitting one focal element into two copies sharing its mass (anywhere in the list, by
`stacking_perm_invariant`) does not change the p-box -/
theorem stacking_split_invariant (g : List ℚ) (a b m1 m2 : ℚ) (R : List Focal) (h1 : 0 ≤ m1) (h2 : 0 ≤ m2)
    (hF : ValidDS ((a, b, m1 + m2) :: R)) (hg : GridOK g) :
    stackF g ((a, b, m1) :: (a, b, m2) :: R) = stackF g ((a, b, m1 + m2) :: R) := by
  obtain ⟨hab, hR⟩ := List.forall_mem_cons.mp hF.ivl
  obtain ⟨_, hnR⟩ := List.forall_mem_cons.mp hF.nonneg
  have hsum : (ms ((a, b, m1) :: (a, b, m2) :: R)).sum = 1 := by
    have := hF.sum1
    simp only [ms, List.map_cons, List.sum_cons] at this ⊢
    linarith
  have hF' : ValidDS ((a, b, m1) :: (a, b, m2) :: R) :=
    ⟨List.cons_ne_nil _ _, List.forall_mem_cons.mpr ⟨hab, List.forall_mem_cons.mpr ⟨hab, hR⟩⟩,
      List.forall_mem_cons.mpr ⟨h1, List.forall_mem_cons.mpr ⟨h2, hnR⟩⟩, hsum⟩
  apply stackF_eq_of_same_mass g _ _ hF' hF hg
  · intro t; simp only [pl, List.map_cons]; exact massLE_split a m1 m2 _ t
  · intro t; simp only [bel, List.map_cons]; exact massLE_split b m1 m2 _ t

example : ValidDS [((1 : ℚ), (3 : ℚ), (1/4 : ℚ) + 1/4), (2, 4, 1/2)] :=
  ⟨by simp, by intro f hf; simp at hf; rcases hf with rfl | rfl <;> norm_num,
   by intro f hf; simp at hf; rcases hf with rfl | rfl <;> norm_num, by norm_num [ms]⟩

/-- ○ a cumulated mass that equals the level selects that focal endpoint (the comparison is `≥`, not `>`):
if the mass up to and including `s` is exactly `p`, the bound at level `p` is at most `s` -/
theorem grid_hit {F : ℚ → ℚ} {p s a : ℚ} (h : IsGenInv F p a) (hit : F s = p) : a ≤ s := by
  by_contra hc
  have := h.2 s (not_le.mp hc)
  linarith

/-! ## the masses matter only through the comparisons of their cumulated sums with the grid levels

The binary64 `np.cumsum` of the masses is not modelled; this section shows what about it can matter.  Take the
exact masses `w` (non-negative, summing to one) and ANY other positive mass vector `w'` of the same length (for
the real code: the differences of the binary64 cumulated sums, which end at `1 ± a few ulp`).  If, along the
value-sorted lower (upper) endpoints, the running sums of `w` and of `w'` compare the same way (`≤`) against every
grid level, and every running sum of `w'` except the last is below one, then `stacking` returns the same p-box for
`w'` as for `w`.  The harness evaluates exactly this hypothesis on every case (exact rational arithmetic on the
binary64 sums numpy produces) and demands equality whenever it holds. -/

structure SameCmpAll (g s w w' : List ℚ) : Prop where
  cmp : ∀ x ∈ g, SameCmp x (sort3 (zip3 s w w')) 0 0
  nonlast : NonLastBelow (sortByFst (s.zip w')) 0

theorem mapOpt_congr (f f' : ℚ → Option ℚ) (g : List ℚ) (h : ∀ p ∈ g, f p = f' p) : mapOpt f g = mapOpt f' g := by
  induction g with
  | nil => rfl
  | cons x r ih =>
    simp only [mapOpt, h x (by simp), ih (fun p hp => h p (List.mem_cons_of_mem _ hp))]

theorem bound_same_cmp (g s w w' : List ℚ) (hv : ValidW s w) (hlen' : w.length = w'.length)
    (hpos : ∀ x ∈ w', 0 < x) (hg : GridOK g) (hc : SameCmpAll g s w w') :
    ∃ e e', getEcdf s w = some e ∧ getEcdf s w' = some e' ∧ bound g e' = bound g e := by
  obtain ⟨e, he⟩ := getEcdf_some s w (zip_ne_nil hv.ne hv.len)
  obtain ⟨e', he'⟩ := getEcdf_some s w' (zip_ne_nil hv.ne (hv.len.trans hlen'))
  refine ⟨e, e', he, he', ?_⟩
  obtain ⟨hne, hnn, hsum⟩ := sorted_zip_facts s w hv
  unfold bound
  apply mapOpt_congr
  intro x hx
  obtain ⟨h0, h1⟩ := hg.1 x hx
  obtain ⟨v, hv'⟩ := nextQ_total (sortByFst (s.zip w)) 0 x (by rw [hsum]; linarith) hne
  have hcong : nextQ (sortByFst (s.zip w')) 0 x = nextQ (sortByFst (s.zip w)) 0 x := by
    rw [← sort3_pi1 s w w' hlen', ← sort3_pi2 s w w' hlen']
    exact (nextQ_congr x _ 0 0 (hc.cmp x hx)).symm
  rw [model_eq_nextQ_pos s w' hpos hc.nonlast x v h0 h1 (hcong.trans hv') he', model_eq_nextQ s w hv x h0 h1 he, hv']

/-- ★ two mass vectors whose cumulated sums compare the same way against every grid level give the same p-box:
`w` the exact masses (valid DS structure), `w'` any positive masses of the same length satisfying
`SameCmpAll` for the lower and for the upper endpoints -/
theorem stacking_same_cmp (g lo hi w w' : List ℚ) (hlen : lo.length = hi.length) (hv : ValidW lo w)
    (hg : GridOK g) (hlen' : w.length = w'.length) (hpos : ∀ x ∈ w', 0 < x)
    (hclo : SameCmpAll g lo w w') (hchi : SameCmpAll g hi w w') :
    stacking g lo hi (some w') = stacking g lo hi (some w) := by
  obtain ⟨e1, e1', h1, h1', b1⟩ := bound_same_cmp g lo w w' hv hlen' hpos hg hclo
  obtain ⟨e2, e2', h2, h2', b2⟩ := bound_same_cmp g hi w w' (hv.of_length_eq hlen) hlen' hpos hg hchi
  simp only [stacking, weightsOf, h1, h1', h2, h2', b1, b2, ← hlen']

example : SameCmp (1/2) [((1 : ℚ), (1/4 : ℚ), (3/10 : ℚ)), (2, 3/4, 7/10)] 0 0 := by
  simp only [SameCmp]; norm_num

/-- ★ the masses as given (exact rationals of the binary64 masses, which sum to one only up to an ulp): for ANY
positive mass vector whose running sums along the value-sorted endpoints stay below one before the last, the
model's bound at a level `0 < x ≤ 1` reached by the total mass is the generalised inverse of the cumulated mass of
those very masses — no normalisation is involved.  This is the exact-rational belief / plausibility reference the
harness evaluates (a cumulated mass that EQUALS a grid level selects that focal element, `grid_hit`). -/
theorem model_geninv_pos (s w : List ℚ) (hpos : ∀ x ∈ w, 0 < x)
    (hnl : NonLastBelow (sortByFst (s.zip w)) 0) (x : ℚ) (h0 : 0 < x) (h1 : x ≤ 1)
    (hreach : x ≤ ((sortByFst (s.zip w)).map (·.2)).sum) (hne : s.zip w ≠ []) :
    ∃ e v, getEcdf s w = some e ∧ interpNext (extendEcdf e) x = some v ∧ IsGenInv (massLE (s.zip w)) x v := by
  have hnn : ∀ p ∈ sortByFst (s.zip w), 0 ≤ p.2 := snd_sortByFst_zip (fun x hx => le_of_lt (hpos x hx)) s
  obtain ⟨v, hv⟩ := nextQ_total (sortByFst (s.zip w)) 0 x (by linarith) (sortByFst_ne_nil hne)
  obtain ⟨e, he⟩ := getEcdf_some s w hne
  exact ⟨e, v, he, model_eq_nextQ_pos s w hpos hnl x v h0 h1 hv he, nextQ_sortByFst_geninv _ hnn x v h0 hv⟩

/-! ## round trip `to_dss().to_pbox()` -/

structure WF (n : Nat) (P : PB) : Prop where
  llen : P.left.length = n
  rlen : P.right.length = n
  lsorted : P.left.Pairwise (· ≤ ·)
  rsorted : P.right.Pairwise (· ≤ ·)
  le : allLE P.left P.right = true

theorem WF.left_le_right {n : Nat} {P : PB} (hP : WF n P) {i k : Nat} {a b : ℚ} (hik : i ≤ k)
    (ha : P.left[i]? = some a) (hb : P.right[k]? = some b) : a ≤ b := by
  have hi : i < P.right.length := by
    rw [hP.rlen, ← hP.llen]; exact (List.getElem?_eq_some_iff.mp ha).1
  exact le_trans ((allLE_iff_get _ _).mp hP.le i a _ ha (List.getElem?_eq_getElem hi))
    (pairwise_get hP.rsorted hik (List.getElem?_eq_getElem hi) hb)

def GridStep (g : List ℚ) (n : Nat) : Prop :=
  g.length = n ∧ ∀ (i : Nat) (p : ℚ), g[i]? = some p → (i : ℚ) / n < p ∧ p ≤ ((i : ℚ) + 1) / n

theorem zip_replicate (l : List ℚ) (c : ℚ) : l.zip (List.replicate l.length c) = l.map (fun x => (x, c)) := by
  induction l with
  | nil => rfl
  | cons x r ih => simp only [List.length_cons, List.replicate_succ, List.zip_cons_cons, List.map_cons, ih]

theorem massLE_const (l : List ℚ) (c t : ℚ) :
    massLE (l.map (fun x => (x, c))) t = c * (l.countP (fun y => decide (y ≤ t)) : ℕ) := by
  induction l with
  | nil => simp [massLE]
  | cons x r ih =>
    simp only [List.map_cons, massLE, ih, List.countP_cons]
    by_cases h : x ≤ t
    · simp only [h, if_true, decide_true]; push_cast; ring
    · simp only [h, if_false, decide_false]; push_cast; ring

theorem count_ge (l : List ℚ) (hs : l.Pairwise (· ≤ ·)) (i : Nat) (a : ℚ) (ha : l[i]? = some a) :
    i + 1 ≤ l.countP (fun y => decide (y ≤ a)) := by
  induction l generalizing i with
  | nil => simp at ha
  | cons x r ih =>
    rw [List.pairwise_cons] at hs
    cases i with
    | zero =>
      simp only [List.getElem?_cons_zero, Option.some.injEq] at ha; subst ha
      simp
    | succ j =>
      simp only [List.getElem?_cons_succ] at ha
      have hx : x ≤ a := hs.1 a (List.mem_of_getElem? ha)
      have := ih hs.2 j ha
      simp only [List.countP_cons, hx, decide_true, if_true]
      omega

theorem count_le (l : List ℚ) (hs : l.Pairwise (· ≤ ·)) (i : Nat) (a t : ℚ) (ha : l[i]? = some a) (ht : t < a) :
    l.countP (fun y => decide (y ≤ t)) ≤ i := by
  induction l generalizing i with
  | nil => simp at ha
  | cons x r ih =>
    rw [List.pairwise_cons] at hs
    cases i with
    | zero =>
      simp only [List.getElem?_cons_zero, Option.some.injEq] at ha; subst ha
      have : (x :: r).countP (fun y => decide (y ≤ t)) = 0 := by
        rw [List.countP_eq_zero]
        intro y hy
        simp only [decide_eq_true_eq, not_le]
        rcases List.mem_cons.mp hy with rfl | hy
        · exact ht
        · exact lt_of_lt_of_le ht (hs.1 y hy)
      omega
    | succ j =>
      simp only [List.getElem?_cons_succ] at ha
      have := ih hs.2 j ha
      simp only [List.countP_cons]
      split <;> omega

theorem sorted_geninv (l : List ℚ) (n : Nat) (hn : l.length = n) (hs : l.Pairwise (· ≤ ·))
    (i : Nat) (a p : ℚ) (ha : l[i]? = some a) (h1 : (i : ℚ) / n < p) (h2 : p ≤ ((i : ℚ) + 1) / n) :
    IsGenInv (massLE (l.zip (equalW n))) p a := by
  have hnpos : 0 < n := by
    have := (List.getElem?_eq_some_iff.mp ha).1; omega
  have hnq : (0 : ℚ) < n := by exact_mod_cast hnpos
  have hz : l.zip (equalW n) = l.map (fun x => (x, 1 / (n : ℚ))) := by
    unfold equalW; rw [← hn]; exact zip_replicate l _
  rw [hz]
  constructor
  · rw [massLE_const, one_div_mul_eq_div]
    exact h2.trans (div_le_div_of_nonneg_right (by exact_mod_cast count_ge l hs i a ha) hnq.le)
  · intro t ht
    rw [massLE_const, one_div_mul_eq_div]
    exact lt_of_le_of_lt (div_le_div_of_nonneg_right (by exact_mod_cast count_le l hs i a t ha ht) hnq.le) h1

theorem validW_equal (l : List ℚ) (n : Nat) (hn : l.length = n) (hpos : 0 < n) : ValidW l (equalW n) := by
  have hnq : (n : ℚ) ≠ 0 := by exact_mod_cast (Nat.pos_iff_ne_zero.mp hpos)
  refine ⟨by simp [equalW, hn], by intro h; subst h; simp at hn; omega, ?_, ?_⟩
  · intro x hx
    simp only [equalW, List.mem_replicate] at hx
    rw [hx.2]; positivity
  · simp only [equalW, List.sum_replicate, nsmul_eq_mul]; field_simp

theorem genInvOn_of_gridStep {g l : List ℚ} {n : Nat} (hg : GridStep g n) (hn : l.length = n)
    (hs : l.Pairwise (· ≤ ·)) : GenInvOn g (massLE (l.zip (equalW n))) l := by
  refine ⟨hn.trans hg.1.symm, fun i p hp => ?_⟩
  have hi : i < l.length := by rw [hn, ← hg.1]; exact (List.getElem?_eq_some_iff.mp hp).1
  exact ⟨l[i], List.getElem?_eq_getElem hi,
    sorted_geninv l n hn hs i l[i] p (List.getElem?_eq_getElem hi) (hg.2 i p hp).1 (hg.2 i p hp).2⟩

/-- ★ converting a well-formed p-box to a DS structure (its `n` steps as focal intervals with mass `1/n`) and
back returns the same p-box, for every grid whose `i`-th level lies in `(i/n, (i+1)/n]` -/
theorem roundtrip_id (g : List ℚ) (n : Nat) (P : PB) (hn : 0 < n) (hP : WF n P) (hg : GridOK g) (hs : GridStep g n) :
    roundtrip g n P = .ok P := by
  obtain ⟨l, r, hst, hL, hR⟩ := stacking_genInvOn g P.left P.right (equalW n) (hP.llen.trans hP.rlen.symm)
    (validW_equal _ n hP.llen hn) hP.le hg
  simp only [roundtrip, toDss]
  rw [hst, hL.unique (genInvOn_of_gridStep hs hP.llen hP.lsorted), hR.unique (genInvOn_of_gridStep hs hP.rlen hP.rsorted)]

example : WF 2 ⟨[1, 2], [2, 5]⟩ ∧ GridStep [1/4, 3/4] 2 :=
  ⟨⟨rfl, rfl, by norm_num, by norm_num, by decide +kernel⟩, rfl, by
    intro i p hp
    match i with
    | 0 => simp at hp; subst hp; norm_num
    | 1 => simp at hp; subst hp; norm_num
    | k + 2 => simp at hp⟩

/-! ## the grid of the source (`Params.p_values`, regenerated on every run) satisfies the hypotheses -/

def stepCheck (n : Nat) : List ℚ → Nat → Bool
  | [], _ => true
  | p :: r, i => decide ((i : ℚ) / n < p ∧ p ≤ ((i : ℚ) + 1) / n) && stepCheck n r (i + 1)

theorem stepCheck_spec (n : Nat) (g : List ℚ) (k : Nat) (h : stepCheck n g k = true) :
    ∀ (i : Nat) (p : ℚ), g[i]? = some p → ((k + i : ℕ) : ℚ) / n < p ∧ p ≤ (((k + i : ℕ) : ℚ) + 1) / n := by
  induction g generalizing k with
  | nil => intro i p hp; simp at hp
  | cons x r ih =>
    simp only [stepCheck, Bool.and_eq_true, decide_eq_true_eq] at h
    intro i p hp
    cases i with
    | zero => simp only [List.getElem?_cons_zero, Option.some.injEq] at hp; subst hp; simpa using h.1
    | succ j =>
      simp only [List.getElem?_cons_succ] at hp
      have := ih (k + 1) h.2 j p hp
      have e : k + 1 + j = k + (j + 1) := by omega
      rw [e] at this; exact this

theorem pValues_gridOK : GridOK Gen.pValues :=
  ⟨by decide +kernel, (sortedB_iff_pairwise _).mp (by decide +kernel)⟩

theorem pValues_gridStep : GridStep Gen.pValues Gen.steps := by
  refine ⟨by decide +kernel, ?_⟩
  have h : stepCheck Gen.steps Gen.pValues 0 = true := by decide +kernel
  intro i p hp
  have := stepCheck_spec _ _ 0 h i p hp
  simpa using this

/-- ★ `stacking_geninv` for the grid of the source -/
theorem stacking_geninv_source (F : List Focal) (hF : ValidDS F) :
    ∃ P, stackF Gen.pValues F = .ok P ∧ P.left.length = Gen.pValues.length ∧ P.right.length = Gen.pValues.length ∧
      ∀ (i : Nat) (p : ℚ), Gen.pValues[i]? = some p → ∃ a b, P.left[i]? = some a ∧ P.right[i]? = some b ∧
        IsGenInv (pl F) p a ∧ IsGenInv (bel F) p b :=
  stackF_geninv _ F hF pValues_gridOK

/-- ★ `roundtrip_id` for the grid and step count of the source: `Pbox.to_dss().to_pbox()` is the identity -/
theorem roundtrip_source (P : PB) (hP : WF Gen.steps P) : roundtrip Gen.pValues Gen.steps P = .ok P :=
  roundtrip_id _ _ P (by decide) hP pValues_gridOK pValues_gridStep

/-- no grid level is within `10⁻⁹` of a multiple of `1/steps` (the fractional part of `p·steps` stays
`2·10⁻⁷` away from 0 and 1): binary64 rounding of the cumulated masses `k/steps` cannot flip a comparison
in the round trip -/
theorem no_near_coincidence :
    ∀ p ∈ Gen.pValues, (2 : ℚ) / 10000000 < p * Gen.steps - (p * Gen.steps).floor ∧
      p * Gen.steps - (p * Gen.steps).floor < 1 - 2 / 10000000 := by
  decide +kernel

end Pun.Props.C08
