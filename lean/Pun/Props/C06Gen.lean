import Pun.Gen.NumOpsGen
import Pun.Props.C06
/-!
# C06 — the source text of the number operations equals the hand model

`Pun/Gen/NumOpsGen.lean` is regenerated on every run from `pba/pbox_abc.py`
(`harness/pv/translator/numops.py`): `pbox_number_ops`, `__neg__`, `reciprocal`, `_unary_template`, the number
branches of `add sub mul div pow` and the infix / reflected operators.  Here each generated definition is proved
equal to the hand model's (`numberOp`, `neg`, `recip`, `unaryTemplate`, `numRight`, `numLeftK`, `powNat`), for every
p-box, constant and number of steps.  The generated definitions are finite compositions of the model's primitives, so
the proofs are definitional unfolding (`rfl`) plus `x - c = x + -c`, with a case split over the four operations
(a proof over a finite table, lifted to the unbounded theorems of `Pun.Props.C06` by these equalities).
The last section re-states the property's identities and step theorems for what the source says now.
-/
namespace Pun.PBox.Num
open Pun Pun.PBox
open Pun.Gen

/-- `pbox_number_ops` as written = `numberOp` -/
theorem gen_numberOps_eq (steps : Nat) (f : Rat → Rat → Rat) (p : PB) (n : Rat) :
    NumOps.numberOps steps f p n = numberOp steps f p n := rfl

/-- `__neg__` as written = `neg` -/
theorem gen_neg_eq (steps : Nat) (p : PB) : NumOps.neg steps p = neg steps p := rfl

/-- `reciprocal` as written (straddle guard, exchange and flip of the bounds) = `recip` -/
theorem gen_recip_eq (steps : Nat) (p : PB) : NumOps.recip steps p = recip steps p := rfl

/-- `_unary_template(f)` as written = `unaryTemplate` on the two mapped bounds, order kept -/
theorem gen_unaryTemplate_eq (steps : Nat) (f : Rat → Rat) (p : PB) :
    NumOps.unaryTemplate steps f p = unaryTemplate steps (p.left.map f) (p.right.map f) := rfl

/-- the number branch of `pow` (natural exponent) = `powNat` -/
theorem gen_powNat_eq (steps : Nat) (p : PB) (k : Nat) : NumOps.powNat steps p k = powNat steps p k := rfl

theorem numberOp_sub_eq (steps : Nat) (p : PB) (c : Rat) :
    numberOp steps (· - ·) p c = numberOp steps (· + ·) p (-c) := by
  rw [numberOp_eq_W, numberOp_eq_W]
  simp only [sub_eq_add_neg]

/-- `P op c`: `__add__ __sub__ __mul__ __truediv__` and the number branches they reach = `numRight` -/
theorem gen_numRight_eq (steps : Nat) (o : Op) (p : PB) (c : Rat) :
    NumOps.numRight steps o p c = numRight steps o p c := by
  cases o with
  | add => rfl
  | sub => exact numberOp_sub_eq steps p c
  | mul => rfl
  | div => rfl

/-- `c op P`: `__radd__ __rsub__ __rmul__ __rtruediv__` (incl. the bare `except` → `NotImplemented` → `TypeError`)
= `numLeftK`, whatever the kind of the constant -/
theorem gen_numLeft_eq (steps : Nat) (k : CKind) (o : Op) (c : Rat) (p : PB) :
    NumOps.numLeft steps o c p = numLeftK steps k o c p := by
  cases o with
  | add => rfl
  | sub => rfl
  | mul => rfl
  | div => rfl

/-- … and, for Python constants, `numRightK` (the kind matters only for `P / 0`) -/
theorem gen_numRight_eqK (steps : Nat) (k : CKind) (o : Op) (p : PB) (c : Rat) (h : o ≠ .div ∨ c ≠ 0) :
    NumOps.numRight steps o p c = numRightK steps k o p c := by
  rw [gen_numRight_eq, numRightK_eq steps k o p c h]

/-! ## the property, for what the source says now -/

/-- −(−P) = P for the `__neg__` in the source -/
theorem gen_neg_neg (n : Nat) (P : PB) (h : WF n P) : (NumOps.neg n P >>= NumOps.neg n) = .ok P :=
  neg_neg_box n P h

/-- c − P = −(P − c) for the `__rsub__`, `__sub__`, `__neg__` in the source -/
theorem gen_rsub_eq (n : Nat) (c : Rat) (P : PB) (h : WF n P) :
    NumOps.numLeft n .sub c P = (NumOps.numRight n .sub P c >>= NumOps.neg n) := by
  rw [gen_numLeft_eq n .pyFloat, gen_numRight_eq, numLeftK_eq n .pyFloat .sub c P (by decide)]
  exact rsub_eq n c P h

/-- c / P = c · (1/P) for the `__rtruediv__`, `__rmul__`, `reciprocal` in the source (support excludes zero) -/
theorem gen_rdiv_eq (n : Nat) (c : Rat) (P : PB) (h : WF n P) (hz : 0 < lo P ∨ hi P < 0) :
    NumOps.numLeft n .div c P = (NumOps.numLeft n .div 1 P >>= fun Q => NumOps.numLeft n .mul c Q) := by
  have key : ∀ d : Rat, NumOps.numLeft n .div d P = numLeft n .div d P := by
    intro d
    rw [gen_numLeft_eq n .pyFloat]
    rcases le_total 0 d with hd | hd
    · have s := rdiv_steps_nonneg n d P h hz hd
      rw [numLeftK_div_ok n _ d P _ s, s]
    · have s := rdiv_steps_nonpos n d P h hz hd
      rw [numLeftK_div_ok n _ d P _ s, s]
  have e1 := key c
  have e2 := key 1
  have e3 : (fun Q => NumOps.numLeft n .mul c Q) = (fun Q => numLeft n .mul c Q) := by
    funext Q; rfl
  rw [e1, e2, e3]
  exact rdiv_eq n c P h hz

/-- steps of `P * c`, `c ≤ 0`, through the source's `__mul__` → `mul` → `pbox_number_ops`: exchanged and reversed -/
theorem gen_mul_steps_neg (n : Nat) (P : PB) (c : Rat) (h : WF n P) (hc : c ≤ 0) :
    NumOps.numRight n .mul P c = .ok ⟨P.right.reverse.map (· * c), P.left.reverse.map (· * c)⟩ := by
  rw [gen_numRight_eq]; exact numMul_steps_neg n P c h hc

/-- steps of `1/P` through the source's `reciprocal` -/
theorem gen_recip_steps (n : Nat) (P : PB) (h : WF n P) (hz : 0 < lo P ∨ hi P < 0) :
    NumOps.recip n P = .ok ⟨P.right.reverse.map (1 / ·), P.left.reverse.map (1 / ·)⟩ :=
  recip_steps n P h hz

/-- `P / 0` is an error in the source's routing of `div` -/
theorem gen_div_zero (n : Nat) (P : PB) : NumOps.numRight n .div P 0 = .error .ZeroDivision := rfl

example := gen_neg_neg 2 exP exP_wf
example := gen_rsub_eq 2 7 exP exP_wf
example := gen_rdiv_eq 2 (-3) exP exP_wf (Or.inl exP_pos)
example := gen_mul_steps_neg 2 exP (-3) exP_wf (by norm_num)
example := gen_recip_steps 2 exN exN_wf (Or.inr exN_neg)

end Pun.PBox.Num
