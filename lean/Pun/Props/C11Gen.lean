import Pun.Props.C11
import Pun.Gen.EnvImpGen
/-!
# C11 — the join / meet logic regenerated from the source equals the hand model

`Pun/Gen/EnvImpGen.lean` is rewritten on every run by `harness/pv/translator/envimp.py` from `Staircase.env`,
`Staircase.imp` (pba/pbox_abc.py), `envelope`, `imposition` (pba/aggregation.py) and `intervals.methods.env`: which
reduction (min / max) is applied to which pair of bound arrays for each result bound, both sides, the comparison and the
quantifier of the crossing test of `imp` and the exception it raises, list vs array form of the constructor call, and for the
n-ary functions the interval shortcut, the operands converted, the operands folded, `functools.reduce` without initial value
(left fold from the first operand) and the receiver of the binary step.  The choices live in finite enums; a fixed interpreter
(`envGen`, `impGen`, `envelopeGen`, `impositionGen`, `hullGen`) runs them.

`envGen_eq`, `impGen_eq`, `hullGen_eq`, `envelopeGen_eq`, `impositionGen_eq` prove the interpreter on the CURRENT constants
equal to the hand model for ALL inputs (the constants are a finite table, so these are proofs by unfolding a finite table;
they lift the unbounded theorems of `Props/C11.lean` to what the source says now: `gen_*`).  A source edit that changes a
choice (min↔max, a bound swapped, `>`→`>=`, a dropped operand, another exception) changes a constant and breaks the
corresponding `…_eq` proof.
-/
namespace Pun.EnvImp
open Pun Pun.PBox Pun.Gen.EnvImp

theorem envGen_eq (n : Nat) (x y : PB) : envGen n x y = env n x y := rfl

theorem impGen_eq (n : Nat) (x y : PB) : impGen n x y = imp n x y := rfl

theorem hullGen_eq (x y : Rat × Rat) : hullGen x y = hull2 x y := rfl

/-- the binary step `p1.m(p2)` / `p2.m(p1)` is the method whichever argument is the receiver, the method being
commutative -/
theorem step_eq (c : NAry) (n : Nat) {f : PB → PB → Except Err PB} (hf : c.meth.ap n = f)
    (comm : ∀ a b, f a b = f b a) : c.step n = f := by
  funext a b
  unfold NAry.step
  split
  · rw [hf]
  · rw [hf, comm]

theorem impositionGen_eq (n : Nat) (l : List Opnd) : impositionGen n l = imposition n l := by
  unfold impositionGen NAry.run imposition foldImp
  rw [step_eq impositionCfg n (f := imp n) rfl (imp_comm n)]
  have hc : impositionCfg.convSkip = 0 := rfl
  have hf : impositionCfg.foldSkip = 0 := rfl
  simp only [hc, hf, List.drop_zero]

theorem envelopeGen_eq (n : Nat) (l : List Opnd) : envelopeGen n l = envelope n l := by
  unfold envelopeGen envelope NAry.run foldEnv
  rw [step_eq envelopeCfg n (f := env n) rfl (env_comm n)]
  have : hullGen = hull2 := by funext a b; exact hullGen_eq a b
  rw [this]
  have hs : envelopeCfg.shortcut = true := rfl
  have hc : envelopeCfg.convSkip = 0 := rfl
  have hf : envelopeCfg.foldSkip = 0 := rfl
  simp only [hs, hc, hf, Bool.true_and, List.drop_zero]
  by_cases h : l.all Opnd.isIvl = true
  · simp only [h, if_true]
  · simp only [h]
    cases convertAll n l with
    | error e => rfl
    | ok xs => rfl

/-! ## the lattice theorems for what the source says now -/

/-- absorption for the hand model: `X ⊔ (X ⊓ Y) = X` and `X ⊓ (X ⊔ Y) = X` -/
theorem absorption {n : Nat} {X Y : PB} (hX : WF n X) (hY : WF n Y) :
    (∀ M, imp n X Y = .ok M → env n X M = .ok X) ∧ (∀ E, env n X Y = .ok E → imp n X E = .ok X) :=
  ⟨fun _ h => env_imp_absorb hX hY h, fun _ h => imp_env_absorb hX hY h⟩

/-- `Staircase.env` as the source has it now: least upper bound -/
theorem gen_env_lub {n : Nat} {X Y E : PB} (hX : WF n X) (hY : WF n Y) (h : envGen n X Y = .ok E) :
    WF n E ∧ Sub X E ∧ Sub Y E ∧ ∀ Q, Sub X Q → Sub Y Q → Sub E Q := by
  rw [envGen_eq] at h
  obtain ⟨h1, h2, h3⟩ := env_upper hX hY h
  exact ⟨h1, h2, h3, fun Q q1 q2 => env_least hX hY h q1 q2⟩

/-- `Staircase.imp` as the source has it now: greatest lower bound when it returns -/
theorem gen_imp_glb {n : Nat} {X Y E : PB} (hX : WF n X) (hY : WF n Y) (h : impGen n X Y = .ok E) :
    WF n E ∧ Sub E X ∧ Sub E Y ∧ ∀ Q, Sub Q X → Sub Q Y → Sub Q E := by
  rw [impGen_eq] at h
  obtain ⟨h1, h2⟩ := imp_lower hX hY h
  exact ⟨(imp_pointwise hX hY h).2.1, h1, h2, fun Q q1 q2 => imp_greatest hX hY h q1 q2⟩

/-- emptiness ⇔ raise, for the extracted crossing test, comparison, quantifier and exception -/
theorem gen_imp_raises_iff {n : Nat} {X Y : PB} (hX : WF n X) (hY : WF n Y) :
    (impGen n X Y = .error .Other ↔ ¬ ∃ z, Sel X z ∧ Sel Y z) ∧
    ((∃ E, impGen n X Y = .ok E) ↔ ∃ z, Sel X z ∧ Sel Y z) := by
  rw [impGen_eq]
  exact ⟨(imp_raises_iff hX hY).1, (imp_raises_iff hX hY).2.1⟩

theorem gen_comm (n : Nat) (X Y : PB) : envGen n X Y = envGen n Y X ∧ impGen n X Y = impGen n Y X := by
  simp only [envGen_eq, impGen_eq]
  exact ⟨env_comm n X Y, imp_comm n X Y⟩

theorem gen_idem {n : Nat} {X : PB} (hX : WF n X) : envGen n X X = .ok X ∧ impGen n X X = .ok X := by
  simp only [envGen_eq, impGen_eq]
  exact ⟨env_idem hX, imp_idem hX⟩

theorem gen_assoc {n : Nat} {X Y Z : PB} (hX : WF n X) (hY : WF n Y) (hZ : WF n Z) :
    ((envGen n X Y >>= fun E => envGen n E Z) = (envGen n Y Z >>= fun E => envGen n X E)) ∧
    ((impGen n X Y >>= fun E => impGen n E Z) = (impGen n Y Z >>= fun E => impGen n X E)) := by
  simp only [envGen_eq, impGen_eq]
  exact ⟨env_assoc hX hY hZ, imp_assoc hX hY hZ⟩

theorem gen_absorption {n : Nat} {X Y : PB} (hX : WF n X) (hY : WF n Y) :
    (∀ M, impGen n X Y = .ok M → envGen n X M = .ok X) ∧ (∀ E, envGen n X Y = .ok E → impGen n X E = .ok X) := by
  simp only [envGen_eq, impGen_eq]
  exact absorption hX hY

/-- the n-ary functions as the source has them now (conversion of every operand, left fold from the first operand, interval
shortcut): any listing order gives the same result -/
theorem gen_fold_perm_invariant {n : Nat} {l₁ l₂ : List Opnd} (hp : l₁.Perm l₂) (hv : ∀ x ∈ l₁, Valid n x) :
    envelopeGen n l₁ = envelopeGen n l₂ ∧ impositionGen n l₁ = impositionGen n l₂ := by
  simp only [envelopeGen_eq, impositionGen_eq]
  exact fold_perm_invariant hp hv

/-- … `envelope` returns the least p-box containing the converted operands -/
theorem gen_envelope_lub {n : Nat} (l : List Opnd) (hv : ∀ x ∈ l, Valid n x) (hmix : l.all Opnd.isIvl = false) :
    ∃ E, envelopeGen n l = .ok (.pb E) ∧ WF n E ∧ (∀ x ∈ l, Sub (conv n x) E) ∧
      (∀ Q, (∀ x ∈ l, Sub (conv n x) Q) → Sub E Q) := by
  rw [envelopeGen_eq]; exact envelope_lub l hv hmix

/-- … `imposition` returns the greatest p-box inside the converted operands, or raises when they share no selection -/
theorem gen_imposition_glb_or_raises {n : Nat} (l : List Opnd) (hne : l ≠ []) (hv : ∀ x ∈ l, Valid n x) :
    (∀ z, (∀ x ∈ l, Sel (conv n x) z) → ∃ E, impositionGen n l = .ok E ∧ WF n E ∧ Sel E z ∧
        (∀ x ∈ l, Sub E (conv n x)) ∧ (∀ Q, (∀ x ∈ l, Sub Q (conv n x)) → Sub Q E)) ∧
    ((¬ ∃ z, ∀ x ∈ l, Sel (conv n x) z) → impositionGen n l = .error .Other) := by
  rw [impositionGen_eq]
  exact ⟨fun z hz => imposition_glb l hne hv z hz, fun hno => imposition_raises l hne hv hno⟩

/-- the interval shortcut as the source has it now: the hull, both ends attained -/
theorem gen_hull_is_env {n : Nat} (l : List Opnd) (hne : l ≠ []) (hv : ∀ x ∈ l, Valid n x)
    (hall : l.all Opnd.isIvl = true) :
    ∃ a b, envelopeGen n l = .ok (.ivl a b) ∧ a ≤ b ∧ (∀ lo hi, Opnd.ivl lo hi ∈ l → a ≤ lo ∧ hi ≤ b) ∧
      (∃ lo hi, Opnd.ivl lo hi ∈ l ∧ lo = a) ∧ (∃ lo hi, Opnd.ivl lo hi ∈ l ∧ hi = b) := by
  rw [envelopeGen_eq]
  obtain ⟨a, b, h1, h2, h3, h4, h5, -⟩ := hull_is_env l hne hv hall
  exact ⟨a, b, h1, h2, h3, h4, h5⟩

/-! non-vacuity: the generated functions computed on the instances of `Props/C11.lean` -/
example : envGen 3 exX exY = .ok ⟨[0, 2, 3], [2, 3, 5]⟩ := by decide +kernel
example : impGen 3 exX exY = .ok ⟨[1, 5/2, 3], [1, 3, 4]⟩ := by decide +kernel
example : impGen 3 exX exZ = .error .Other := by decide +kernel
example : envelopeGen 3 exFam = .ok (.pb ⟨[1, 1, 1], [3, 3, 4]⟩) := by decide +kernel
example : impositionGen 3 [.ivl 1 3, .box exX, .box exY] = .ok ⟨[1, 5/2, 3], [1, 3, 3]⟩ := by decide +kernel
example : envelopeGen 3 [.ivl 1 2, .ivl 0 1, .ivl (3/2) 5] = .ok (.ivl 0 5) := by decide +kernel

end Pun.EnvImp
