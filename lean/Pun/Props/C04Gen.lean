import Pun.Props.C04
import Pun.Gen.CtorGen
/-!
# C04 — the constructor's validation regenerated from the source equals the hand model

`Pun/Gen/CtorGen.lean` is rewritten on every run by `harness/pv/translator/ctor.py` from `is_increasing`,
`left_right_switch` (pba/utils.py) and `Pbox.__init__`, `steps_check`, `post_init_check` and the bound setters
(pba/pbox_abc.py): the quantifier, comparison and threshold of the monotonicity test; the quantifier, comparison and operand
order of the whole-array switch test and what each of its branches returns; which switched value is stored in which bound;
the comparison of the length assertion; which bounds the monotonicity test reads; the quantifier, comparison and operand
order of the crossing test; the exception classes.  The choices live in finite enums; a fixed interpreter (`incGen`,
`switchTestGen`, `postGen`, `mkCoreGen`, `mkGen`) runs them.

`incGen_eq`, `switchTestGen_eq`, `mkCoreGen_eq`, `mkGen_eq` prove the interpreter on the CURRENT constants equal to the hand
model `mkN` for ALL bound arrays (NaN entries included), all lengths and every configuration; `gen_constructor_wf` and
`gen_nan_rejected` restate the theorems of `Props/C04.lean` for what the source says now.  A source edit that changes a
choice (`>=`→`>` in `is_increasing`, `np.any`→`np.all` or `>`→`>=` in the crossing test, a bound swapped, a check dropped from
the disjunction, another exception class) changes a constant and breaks the corresponding `…_eq` proof.
-/
namespace Pun.WF
open Pun Pun.PBox Pun.Gen.Ctor

theorem cmpN_ge : cmpN .ge = geN := by
  funext a b; cases a <;> cases b <;> rfl

theorem geN_sub_zero (a b : NR) : cmpN .ge (subN b a) (some 0) = geN b a := by
  cases a <;> cases b <;> simp [subN, cmpN, geN]

theorem incGen_eq : ∀ l : List NR, incGen l = isIncreasingN l
  | [] => rfl
  | [_] => rfl
  | a :: b :: t => by
    have ih := incGen_eq (b :: t)
    unfold incGen at ih ⊢
    simp only [incQuant, incCmp, incThreshold, quantAp, diffN, List.all_cons, isIncreasingN] at ih ⊢
    rw [ih, geN_sub_zero]

theorem switchTestGen_eq (l r : List NR) : switchTestGen l r = switchArr l r := by
  unfold switchTestGen switchArr allGeN
  simp only [swL, swR, swQuant, swCmp, pick, quantAp, cmpN_ge]
  rcases l with _ | ⟨a, _ | ⟨a', t⟩⟩ <;> rcases r with _ | ⟨b, _ | ⟨b', s⟩⟩ <;> rfl

theorem anyGt_eq (l r : List Rat) :
    (l.zip r).any (fun p => cmpN .gt (some p.1) (some p.2)) = anyGt l r := rfl

theorem postGen_eq (l r : List NR) :
    postGen l r = (if l.length ≠ r.length then .error .Assertion
      else if !(isIncreasingN l) || !(isIncreasingN r) then .error .Other
      else match unN l, unN r with
        | some l', some r' => guardLE ⟨l', r'⟩
        | _, _ => .error .Other) := by
  unfold postGen
  simp only [stepsCmp, cmpNat, incSides, incErr, crossQuant, crossCmp, crossL, crossR, crossErr, pick, quantAp,
    List.any_cons, List.any_nil, Bool.or_false, incGen_eq, anyGt_eq, guardLE]
  by_cases h : l.length = r.length <;> simp [h]
  cases unN l <;> cases unN r <;> rfl

theorem mkCoreGen_eq (c : Cfg) (l r : List NR) : mkCoreGen c l r = mkCore c l r := by
  unfold mkCoreGen mkCore
  cases boundStepsN c l with
  | error e => rfl
  | ok l' =>
    cases boundStepsN c r with
    | error e => rfl
    | ok r' => simp only [bind, Except.bind]; exact postGen_eq l' r'

theorem mkGen_eq (c : Cfg) (lists : Bool) (l r : List NR) : mkGen c lists l r = mkN c lists l r := by
  unfold mkGen mkN switchN
  simp only [swTrueSwaps, swFalseSwaps, leftFrom, rightFrom, pick, switchTestGen_eq, mkCoreGen_eq]
  cases lists
  · simp only [Bool.false_eq_true, if_false]
    cases switchArr l r with
    | error e => rfl
    | ok sw => cases sw <;> simp [bind, Except.bind]
  · simp only [if_true]
    cases lexGeN l r <;> simp [bind, Except.bind]

/-- **★ constructor_wf**, regenerated: whatever `Pbox.__init__` as written accepts is a well-formed p-box with exactly the
configured number of steps, sorted bounds and `left ≤ right` at every step -/
theorem gen_constructor_wf (c : Cfg) (lists : Bool) (l r : List NR) (P : PB) (h : mkGen c lists l r = .ok P) :
    WF c.steps P := constructor_wf c lists l r P ((mkGen_eq c lists l r).symm.trans h)

/-- **★ nan_rejected**, regenerated -/
theorem gen_nan_rejected (c : Cfg) (h2 : 2 ≤ c.steps) (lists : Bool) (l r : List NR)
    (hl : l.length = c.steps) (hr : r.length = c.steps) (hn : none ∈ l ∨ none ∈ r) :
    ∃ e, mkGen c lists l r = .error e := by
  rw [mkGen_eq]; exact nan_rejected c h2 lists l r hl hr hn

-- non-vacuity: accepted, swapped as a whole, rejected when the bounds cross, NaN rejected
example : mkGen ⟨2, 1/1000, 999/1000⟩ false [some 1, some 2] [some 2, some 3] = .ok ⟨[1, 2], [2, 3]⟩ := by decide +kernel
example : mkGen ⟨2, 1/1000, 999/1000⟩ false [some 2, some 3] [some 1, some 2] = .ok ⟨[1, 2], [2, 3]⟩ := by decide +kernel
example : mkGen ⟨2, 1/1000, 999/1000⟩ false [some 1, some 4] [some 2, some 3] = .error .Other := by decide +kernel
example : mkGen ⟨3, 1/1000, 999/1000⟩ false [some 1, none, some 3] [some 2, some 3, some 4] = .error .Other := by
  decide +kernel

end Pun.WF
