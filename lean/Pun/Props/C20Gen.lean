import Pun.Props.C20
import Pun.Gen.HedgeGen
/-!
# C20, generated part: the keyword table as the source has it at the time of the run

`Pun/Gen/HedgeGen.lean` is regenerated from the `match kwd` statement of `hedge_interpret` on
every run.  The hypotheses of the generic theorems are discharged for that table by evaluation,
so a harmless change of a coefficient still passes, a negative width, a one-sided hedge on the
wrong side or `about` wider than `around` does not.
-/
namespace Pun.Gen
open Pun.Hedge

/-- shape and sign of every row demanded by the statement -/
def rowOK : String × Form → Bool
  | ("exactly", .sym k _) | ("about", .sym k _) | ("around", .sym k _) => decide (0 ≤ k)
  | ("count", .count) => true
  | ("almost", .left k) | ("below", .left k) => decide (0 < k)
  | ("over", .right k) | ("above", .right k) => decide (0 < k)
  | ("at most", .atMost) | ("at least", .atLeast) => true
  | ("order", .order a _) => decide (a ≠ 0)
  | ("between", .text) => true
  | _ => false

theorem table_rows_ok : hedgeTable.all rowOK = true := by decide +kernel
theorem table_nested_ok : nestedOK hedgeTable = true := by decide +kernel
theorem table_keys : hedgeTable.map Prod.fst = hedgeKwdList := by decide +kernel

/-- exactly ⊆ about ⊆ around, all containing the number, for every numeral -/
theorem gen_hedge_order (ν : Numeral) (sq : Rat) :
    ∃ a b c, hedge hedgeTable "exactly" ν sq = some a ∧ hedge hedgeTable "about" ν sq = some b ∧
      hedge hedgeTable "around" ν sq = some c ∧ a.sub b ∧ b.sub c ∧
      EB.le a.lo (.fin ν.val) ∧ EB.le (.fin ν.val) a.hi :=
  hedge_order hedgeTable table_nested_ok ν sq

/-- the symmetric hedges of the extracted table contain the number symmetrically -/
theorem gen_symmetric (kw : String) (k : Rat) (j : Nat) (h : lookup hedgeTable kw = some (.sym k j))
    (hk : 0 ≤ k) (ν : Numeral) (sq : Rat) :
    ∃ w, 0 ≤ w ∧ hedge hedgeTable kw ν sq = some ⟨.fin (ν.val - w), .fin (ν.val + w)⟩ := by
  rw [hedge_of_lookup h]
  exact hedge_contains k j ν sq hk

/-- almost / below end at the number, over / above start at it, at most / at least are rays -/
theorem gen_endpoints (ν : Numeral) (sq : Rat) :
    (∀ kw ∈ ["almost", "below"], ∃ lo, lo < ν.val ∧ hedge hedgeTable kw ν sq = some ⟨.fin lo, .fin ν.val⟩) ∧
    (∀ kw ∈ ["over", "above"], ∃ hi, ν.val < hi ∧ hedge hedgeTable kw ν sq = some ⟨.fin ν.val, .fin hi⟩) ∧
    hedge hedgeTable "at most" ν sq = some ⟨.ninf, .fin ν.val⟩ ∧
    hedge hedgeTable "at least" ν sq = some ⟨.fin ν.val, .pinf⟩ := by
  have left : ["almost", "below"].all (leftOK hedgeTable) = true := by decide +kernel
  have right : ["over", "above"].all (rightOK hedgeTable) = true := by decide +kernel
  have atMost : lookup hedgeTable "at most" = some .atMost := by decide +kernel
  have atLeast : lookup hedgeTable "at least" = some .atLeast := by decide +kernel
  exact ⟨fun kw hkw => hedge_left hedgeTable kw (List.all_eq_true.mp left kw hkw) ν sq,
    fun kw hkw => hedge_right hedgeTable kw (List.all_eq_true.mp right kw hkw) ν sq,
    hedge_of_lookup atMost ν sq, hedge_of_lookup atLeast ν sq⟩

end Pun.Gen
