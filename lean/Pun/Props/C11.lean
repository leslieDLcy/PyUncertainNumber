import Pun.Lemmas.EnvImp
/-!
# C11 — envelope and imposition are the lattice join and meet of uncertain numbers

All theorems are about the functions the model driver executes: `Pun.PBox.env`, `Pun.PBox.imp`
(`Pbox.env`, `Pbox.imp`), `Pun.EnvImp.envelope`, `Pun.EnvImp.imposition` (`aggregation.envelope`,
`aggregation.imposition` with their conversion, interval shortcut and left fold) and
`Pun.EnvImp.containsP` (`Pbox.__contains__`), for ANY number of steps `n` and families of ANY size.

Order: `Sub P Q` (`Q` contains `P`) is `Q.left ≤ P.left` and `P.right ≤ Q.right` at every step.
Inputs: `WF n P` (n steps, sorted bounds, `left ≤ right`) — what the `Staircase` constructor
guarantees; operands of the public functions: `Valid n` (proper scalar interval, number, well-formed
p-box).  Outside of that the functions raise; those branches are `envelope_empty`, `imposition_empty`,
`envelope_other`.

"No common distribution" is stated on selections: `Sel P z` — one value per step inside the step
(a sorted selection is a quantile function lying between the bounds, i.e. a distribution in the box).
-/
set_option linter.unusedVariables false
namespace Pun.EnvImp
open Pun Pun.PBox

/-! ## ★ the binary methods: least upper bound / greatest lower bound -/

/-- `X.env(Y)` is the pointwise min of the left bounds and max of the right bounds -/
theorem env_pointwise {n : Nat} {X Y : PB} (hX : WF n X) (hY : WF n Y) :
    env n X Y = .ok ⟨List.zipWith min X.left Y.left, List.zipWith max X.right Y.right⟩ := env_ok hX hY

/-- the envelope contains both operands … -/
theorem env_upper {n : Nat} {X Y E : PB} (hX : WF n X) (hY : WF n Y) (h : env n X Y = .ok E) :
    WF n E ∧ Sub X E ∧ Sub Y E := by
  rw [env_ok hX hY] at h
  cases h
  exact ⟨envSpec_wf hX hY, sub_envSpec_left hX hY, sub_envSpec_right hX hY⟩

/-- … and is contained in every p-box that contains both -/
theorem env_least {n : Nat} {X Y E Q : PB} (hX : WF n X) (hY : WF n Y) (h : env n X Y = .ok E)
    (h1 : Sub X Q) (h2 : Sub Y Q) : Sub E Q := by
  rw [env_ok hX hY] at h
  cases h
  exact envSpec_sub h1 h2

/-- `X.imp(Y)` raises exactly when the operands have no common selection, i.e. when some step of
`X` does not meet the same step of `Y`; its own exception (`Exception` → `Other`) is the only one -/
theorem imp_raises_iff {n : Nat} {X Y : PB} (hX : WF n X) (hY : WF n Y) :
    (imp n X Y = .error .Other ↔ ¬ ∃ z, Sel X z ∧ Sel Y z) ∧
    ((∃ E, imp n X Y = .ok E) ↔ ∃ z, Sel X z ∧ Sel Y z) ∧
    ((∃ z, Sel X z ∧ Sel Y z) ↔
      List.Forall₂ (· ≤ ·) (List.zipWith max X.left Y.left) (List.zipWith min X.right Y.right)) := by
  have hiff := compat_iff_common hX hY
  refine ⟨⟨fun h hc => ?_, fun h => imp_err hX hY (fun hc => h (hiff.mp hc))⟩,
    ⟨fun ⟨E, h⟩ => ?_, fun h => ⟨_, imp_ok hX hY (hiff.mpr h)⟩⟩, hiff.symm⟩
  · rw [imp_ok hX hY (hiff.mpr hc)] at h; cases h
  · by_contra hc
    rw [imp_err hX hY (fun hh => hc (hiff.mp hh))] at h; cases h

/-- when it exists the imposition is the pointwise max of the left and min of the right bounds,
it is well formed, and the left bound is a sorted common selection (a common distribution) -/
theorem imp_pointwise {n : Nat} {X Y E : PB} (hX : WF n X) (hY : WF n Y) (h : imp n X Y = .ok E) :
    E = ⟨List.zipWith max X.left Y.left, List.zipWith min X.right Y.right⟩ ∧ WF n E ∧
    E.left.Pairwise (· ≤ ·) ∧ Sel X E.left ∧ Sel Y E.left := by
  have hc : Compat X Y := by
    by_contra hc; rw [imp_err hX hY hc] at h; cases h
  rw [imp_ok hX hY hc] at h
  cases h
  have w := impSpec_wf hX hY hc
  have sE : Sel (impSpec X Y) (impSpec X Y).left := ⟨PLe.rfl _, w.le⟩
  exact ⟨rfl, w, w.lsorted, sel_of_sub (impSpec_sub_left hX hY) sE, sel_of_sub (impSpec_sub_right hX hY) sE⟩

/-- the imposition is contained in both operands … -/
theorem imp_lower {n : Nat} {X Y E : PB} (hX : WF n X) (hY : WF n Y) (h : imp n X Y = .ok E) :
    Sub E X ∧ Sub E Y := by
  obtain ⟨rfl, -⟩ := imp_pointwise hX hY h
  exact ⟨impSpec_sub_left hX hY, impSpec_sub_right hX hY⟩

/-- … and contains every p-box contained in both -/
theorem imp_greatest {n : Nat} {X Y E Q : PB} (hX : WF n X) (hY : WF n Y) (h : imp n X Y = .ok E)
    (h1 : Sub Q X) (h2 : Sub Q Y) : Sub Q E := by
  obtain ⟨rfl, -⟩ := imp_pointwise hX hY h
  exact sub_impSpec h1 h2

/-! ## ★ commutative, idempotent, associative -/

/-- holds for all inputs, well formed or not (same exception included) -/
theorem env_comm (n : Nat) (X Y : PB) : env n X Y = env n Y X := by
  unfold env
  rw [List.zipWith_comm (as := X.left), List.zipWith_comm (as := X.right)]
  simp only [min_comm, max_comm]

theorem imp_comm (n : Nat) (X Y : PB) : imp n X Y = imp n Y X := by
  unfold imp
  rw [List.zipWith_comm (as := X.left), List.zipWith_comm (as := X.right)]
  simp only [min_comm, max_comm]

theorem env_idem {n : Nat} {X : PB} (hX : WF n X) : env n X X = .ok X := by
  rw [env_ok hX hX, envSpec, zipWith_min_self, zipWith_max_self]

theorem imp_idem {n : Nat} {X : PB} (hX : WF n X) : imp n X X = .ok X := by
  have hc : Compat X X := by rw [Compat, zipWith_min_self, zipWith_max_self]; exact hX.le
  rw [imp_ok hX hX hc, impSpec, zipWith_min_self, zipWith_max_self]

/-- for a commutative step, regrouping three operands is a reordering of the left fold -/
theorem assoc_of_perm {f : PB → PB → Except Err PB} (comm : ∀ X Y, f X Y = f Y X) {X Y Z : PB}
    (perm : reduceM f [X, Y, Z] = reduceM f [Y, Z, X]) :
    (f X Y >>= fun E => f E Z) = (f Y Z >>= fun E => f X E) := by
  have e : (f Y Z >>= fun E => f X E) = reduceM f [Y, Z, X] := by
    simp only [comm X, reduceM, List.foldlM_cons, List.foldlM_nil, bind_pure]
  rw [e, ← perm]
  simp only [reduceM, List.foldlM_cons, List.foldlM_nil, bind_pure]

theorem perm_rotate3 {α : Type} (X Y Z : α) : [X, Y, Z].Perm [Y, Z, X] :=
  List.perm_append_comm (l₁ := [X]) (l₂ := [Y, Z])

/-- `(X.env(Y)).env(Z) = X.env(Y.env(Z))` -/
theorem env_assoc {n : Nat} {X Y Z : PB} (hX : WF n X) (hY : WF n Y) (hZ : WF n Z) :
    (env n X Y >>= fun E => env n E Z) = (env n Y Z >>= fun E => env n X E) :=
  assoc_of_perm (env_comm n) (foldEnv_perm (perm_rotate3 X Y Z) (by simp [hX, hY, hZ]))

/-- `(X.imp(Y)).imp(Z) = X.imp(Y.imp(Z))`: the same p-box, or both raise -/
theorem imp_assoc {n : Nat} {X Y Z : PB} (hX : WF n X) (hY : WF n Y) (hZ : WF n Z) :
    (imp n X Y >>= fun E => imp n E Z) = (imp n Y Z >>= fun E => imp n X E) :=
  assoc_of_perm (imp_comm n) (foldImp_perm (perm_rotate3 X Y Z) (by simp [hX, hY, hZ]))

/-! ## ★ absorption, the order recovered from join / meet, monotonicity (the remaining lattice laws) -/

/-- containment is recovered from the join: `Y` contains `X` iff `X.env(Y) = Y` -/
theorem sub_iff_env {n : Nat} {X Y : PB} (hX : WF n X) (hY : WF n Y) : Sub X Y ↔ env n X Y = .ok Y := by
  rw [env_ok hX hY]
  constructor
  · intro h
    rw [Sub.antisymm (envSpec_sub h (Sub.rfl Y)) (sub_envSpec_right hX hY)]
  · intro h
    rw [← Except.ok.inj h]
    exact sub_envSpec_left hX hY

/-- … and from the meet: `Y` contains `X` iff `X.imp(Y) = X` -/
theorem sub_iff_imp {n : Nat} {X Y : PB} (hX : WF n X) (hY : WF n Y) : Sub X Y ↔ imp n X Y = .ok X := by
  constructor
  · intro h
    have hsel : Sel X X.left := ⟨PLe.rfl _, hX.le⟩
    rw [imp_ok hX hY ((compat_iff_common hX hY).mpr ⟨X.left, hsel, sel_of_sub h hsel⟩),
      Sub.antisymm (impSpec_sub_left hX hY) (sub_impSpec (Sub.rfl X) h)]
  · intro h; exact (imp_lower hX hY h).2

/-- `X.imp(X.env(Y)) = X`: the imposition never raises against an envelope of its own operand -/
theorem imp_env_absorb {n : Nat} {X Y E : PB} (hX : WF n X) (hY : WF n Y) (h : env n X Y = .ok E) :
    imp n X E = .ok X := by
  obtain ⟨wE, sXE, -⟩ := env_upper hX hY h
  exact (sub_iff_imp hX wE).mp sXE

/-- `X.env(X.imp(Y)) = X` whenever the imposition exists -/
theorem env_imp_absorb {n : Nat} {X Y E : PB} (hX : WF n X) (hY : WF n Y) (h : imp n X Y = .ok E) :
    env n X E = .ok X := by
  obtain ⟨-, wE, -⟩ := imp_pointwise hX hY h
  rw [env_comm]
  exact (sub_iff_env wE hX).mp (imp_lower hX hY h).1

/-- the envelope is monotone in both operands -/
theorem env_mono {n : Nat} {X Y X' Y' E E' : PB} (hX : WF n X) (hY : WF n Y) (hX' : WF n X') (hY' : WF n Y')
    (sX : Sub X X') (sY : Sub Y Y') (h : env n X Y = .ok E) (h' : env n X' Y' = .ok E') : Sub E E' := by
  obtain ⟨-, a, b⟩ := env_upper hX' hY' h'
  exact env_least hX hY h (Sub.trans sX a) (Sub.trans sY b)

/-- the imposition is monotone in both operands: widening operands that meet cannot make them miss each
other, and the result only widens -/
theorem imp_mono {n : Nat} {X Y X' Y' E : PB} (hX : WF n X) (hY : WF n Y) (hX' : WF n X') (hY' : WF n Y')
    (sX : Sub X X') (sY : Sub Y Y') (h : imp n X Y = .ok E) : ∃ E', imp n X' Y' = .ok E' ∧ Sub E E' := by
  obtain ⟨-, -, -, s1, s2⟩ := imp_pointwise hX hY h
  obtain ⟨E', hE'⟩ := (imp_raises_iff hX' hY').2.1.mpr ⟨E.left, sel_of_sub sX s1, sel_of_sub sY s2⟩
  obtain ⟨a, b⟩ := imp_lower hX hY h
  exact ⟨E', hE', imp_greatest hX' hY' hE' (Sub.trans a sX) (Sub.trans b sY)⟩

/-! ## ★ the public functions: fold over 1..k operands of mixed kinds, any listing order -/

/-- a family that is not made of intervals only: `envelope` returns the least p-box containing the
(converted) operands -/
theorem envelope_lub {n : Nat} (l : List Opnd) (hv : ∀ x ∈ l, Valid n x) (hmix : l.all Opnd.isIvl = false) :
    ∃ E, envelope n l = .ok (.pb E) ∧ WF n E ∧ (∀ x ∈ l, Sub (conv n x) E) ∧
      (∀ Q, (∀ x ∈ l, Sub (conv n x) Q) → Sub E Q) := by
  have hne : l.map (conv n) ≠ [] := by
    intro h; rw [List.map_eq_nil_iff] at h; subst h; simp at hmix
  obtain ⟨E, e, w, u, m⟩ := foldEnv_spec (l.map (conv n)) hne (conv_wf l hv)
  refine ⟨E, ?_, w, List.forall_mem_map.mp u, fun Q hQ => m Q (List.forall_mem_map.mpr hQ)⟩
  simp only [envelope, hmix, convertAll_ok l hv, e, bind, Except.bind]
  rfl

/-- a non-empty family of intervals only: the shortcut returns the interval hull `[a, b]` — the
least lower end and the greatest upper end, both attained — and the hull, converted to a p-box, IS
the p-box envelope of the converted intervals -/
theorem hull_is_env {n : Nat} (l : List Opnd) (hne : l ≠ []) (hv : ∀ x ∈ l, Valid n x)
    (hall : l.all Opnd.isIvl = true) :
    ∃ a b, envelope n l = .ok (.ivl a b) ∧ a ≤ b ∧
      (∀ lo hi, Opnd.ivl lo hi ∈ l → a ≤ lo ∧ hi ≤ b) ∧
      (∃ lo hi, Opnd.ivl lo hi ∈ l ∧ lo = a) ∧ (∃ lo hi, Opnd.ivl lo hi ∈ l ∧ hi = b) ∧
      (ivlToPbox n a b >>= fun H => pure (Res.pb H)) =
        (convertAll n l >>= fun xs => foldEnv n xs >>= fun E => pure (Res.pb E)) := by
  obtain ⟨a, b, e, hab, u, ⟨ya, hya, ea⟩, ⟨yb, hyb, eb⟩⟩ :=
    hull_spec (ivlEnds l) (ivlEnds_ne_nil hne hall) (ivlEnds_valid hv)
  have hU : ∀ lo hi, Opnd.ivl lo hi ∈ l → a ≤ lo ∧ hi ≤ b := fun lo hi h => u (lo, hi) (mem_ivlEnds.mpr h)
  refine ⟨a, b, ?_, hab, hU, ⟨ya.1, ya.2, mem_ivlEnds.mp hya, ea⟩, ⟨yb.1, yb.2, mem_ivlEnds.mp hyb, eb⟩, ?_⟩
  · simp only [envelope, hall, e, if_true, bind, Except.bind]
  · -- the constant box on the hull is the least upper bound of the converted operands
    have hne' : l.map (conv n) ≠ [] := by
      intro h; rw [List.map_eq_nil_iff] at h; exact hne h
    obtain ⟨E, eE, -, uE, mE⟩ := foldEnv_spec (l.map (conv n)) hne' (conv_wf l hv)
    have hform : ∀ x ∈ l, ∃ lo hi, x = Opnd.ivl lo hi := by
      intro x hx
      have := (List.all_eq_true.mp hall) x hx
      cases x <;> simp [Opnd.isIvl] at this
      exact ⟨_, _, rfl⟩
    let H : PB := ⟨List.replicate n a, List.replicate n b⟩
    have h1 : Sub E H := by
      apply mE
      intro P hP
      obtain ⟨x, hx, rfl⟩ := List.mem_map.mp hP
      obtain ⟨lo, hi, rfl⟩ := hform x hx
      obtain ⟨h1, h2⟩ := hU lo hi hx
      exact ⟨ple_replicate n h1, ple_replicate n h2⟩
    have h2 : Sub H E := by
      have ha := uE _ (List.mem_map.mpr ⟨_, mem_ivlEnds.mp hya, rfl⟩)
      have hb := uE _ (List.mem_map.mpr ⟨_, mem_ivlEnds.mp hyb, rfl⟩)
      simp only [conv, Sub, ea, eb] at ha hb
      exact ⟨ha.1, hb.2⟩
    have : E = H := Sub.antisymm h1 h2
    simp only [ivlToPbox_ok n hab, convertAll_ok l hv, eE, this, bind, Except.bind, pure, Except.pure, H]

/-- ★ `fold_perm_invariant` for `envelope`: any listing order of the same operands gives the same
result (an `Interval` for intervals only, else the same p-box) -/
theorem envelope_perm {n : Nat} {l₁ l₂ : List Opnd} (hp : l₁.Perm l₂) (hv : ∀ x ∈ l₁, Valid n x) :
    envelope n l₁ = envelope n l₂ := by
  have hv2 : ∀ x ∈ l₂, Valid n x := fun x hx => hv x (hp.mem_iff.mpr hx)
  unfold envelope
  rw [← all_isIvl_perm hp]
  by_cases hall : l₁.all Opnd.isIvl = true
  · simp only [hall, if_true]
    have : reduceM hull2 (ivlEnds l₁) = reduceM hull2 (ivlEnds l₂) :=
      hull_perm (hp.filterMap _) (ivlEnds_valid hv)
    rw [this]
  · have hall' : l₁.all Opnd.isIvl = false := by simpa using hall
    simp only [hall']
    rw [convertAll_ok l₁ hv, convertAll_ok l₂ hv2]
    simp only [bind, Except.bind]
    rw [foldEnv_perm (hp.map _) (conv_wf l₁ hv)]
    rfl

/-- `imposition` of a non-empty valid family with a common selection: the greatest p-box contained
in every (converted) operand; the common selection is a selection of it -/
theorem imposition_glb {n : Nat} (l : List Opnd) (hne : l ≠ []) (hv : ∀ x ∈ l, Valid n x)
    (z : List Rat) (hz : ∀ x ∈ l, Sel (conv n x) z) :
    ∃ E, imposition n l = .ok E ∧ WF n E ∧ Sel E z ∧ (∀ x ∈ l, Sub E (conv n x)) ∧
      (∀ Q, (∀ x ∈ l, Sub Q (conv n x)) → Sub Q E) := by
  obtain ⟨E, e, w, s, u, m⟩ := foldImp_ok (l.map (conv n)) (by simpa using hne) (conv_wf l hv) z
    (List.forall_mem_map.mpr hz)
  refine ⟨E, ?_, w, s, List.forall_mem_map.mp u, fun Q hQ => m Q (List.forall_mem_map.mpr hQ)⟩
  simp only [imposition, convertAll_ok l hv, e, bind, Except.bind]

/-- … and it raises (its own exception) when the operands have no common selection -/
theorem imposition_raises {n : Nat} (l : List Opnd) (hne : l ≠ []) (hv : ∀ x ∈ l, Valid n x)
    (hno : ¬ ∃ z, ∀ x ∈ l, Sel (conv n x) z) : imposition n l = .error .Other := by
  have hno' : ¬ ∃ z, CommonSel (l.map (conv n)) z := fun ⟨z, hz⟩ => hno ⟨z, List.forall_mem_map.mp hz⟩
  simp only [imposition, convertAll_ok l hv, foldImp_err _ (by simpa using hne) (conv_wf l hv) hno', bind,
    Except.bind]

/-- ★ `fold_perm_invariant` for `imposition` (same p-box, or every order raises) -/
theorem imposition_perm {n : Nat} {l₁ l₂ : List Opnd} (hp : l₁.Perm l₂) (hv : ∀ x ∈ l₁, Valid n x) :
    imposition n l₁ = imposition n l₂ := by
  have hv2 : ∀ x ∈ l₂, Valid n x := fun x hx => hv x (hp.mem_iff.mpr hx)
  unfold imposition
  rw [convertAll_ok l₁ hv, convertAll_ok l₂ hv2]
  simp only [bind, Except.bind]
  exact foldImp_perm (hp.map _) (conv_wf l₁ hv)

/-- the bounds of the fold ARE the iterated pointwise min of the left / max of the right bounds
of the converted operands -/
theorem envelope_pointwise {n : Nat} (x : Opnd) (xs : List Opnd) (hv : ∀ y ∈ x :: xs, Valid n y)
    (hmix : (x :: xs).all Opnd.isIvl = false) :
    envelope n (x :: xs) = .ok (.pb ((xs.map (conv n)).foldl envSpec (conv n x))) := by
  obtain ⟨hx, hxs⟩ := List.forall_mem_cons.mp (conv_wf (x :: xs) hv)
  have h := (foldlM_env_eq _ _ hx hxs).1
  simp only [envelope, hmix, convertAll_ok (x :: xs) hv, List.map_cons, foldEnv, reduceM, h, bind, Except.bind]
  rfl

/-- when the operands have a common selection the imposition is the iterated pointwise max of the
left / min of the right bounds -/
theorem imposition_pointwise {n : Nat} (x : Opnd) (xs : List Opnd) (hv : ∀ y ∈ x :: xs, Valid n y)
    (z : List Rat) (hz : ∀ y ∈ x :: xs, Sel (conv n y) z) :
    imposition n (x :: xs) = .ok ((xs.map (conv n)).foldl impSpec (conv n x)) := by
  obtain ⟨hx, hxs⟩ := List.forall_mem_cons.mp (conv_wf (x :: xs) hv)
  have hz' : CommonSel ((x :: xs).map (conv n)) z := List.forall_mem_map.mpr hz
  have e := (foldlM_imp_ok _ _ hx hxs z hz').1
  simp only [imposition, convertAll_ok (x :: xs) hv, List.map_cons, foldImp, reduceM, e, bind, Except.bind]

/-- ★ `fold_perm_invariant`: both folds, any listing order -/
theorem fold_perm_invariant {n : Nat} {l₁ l₂ : List Opnd} (hp : l₁.Perm l₂) (hv : ∀ x ∈ l₁, Valid n x) :
    envelope n l₁ = envelope n l₂ ∧ imposition n l₁ = imposition n l₂ :=
  ⟨envelope_perm hp hv, imposition_perm hp hv⟩

/-! ## rejected inputs -/

theorem envelope_empty (n : Nat) : envelope n [] = .error .Type := rfl
theorem imposition_empty (n : Nat) : imposition n [] = .error .Type := rfl
/-- an operand that `convert` does not know makes both functions raise `TypeError` whatever the
other (valid) operands are -/
theorem envelope_other {n : Nat} (l₁ l₂ : List Opnd) (hv : ∀ x ∈ l₁, Valid n x) :
    envelope n (l₁ ++ .other :: l₂) = .error .Type ∧ imposition n (l₁ ++ .other :: l₂) = .error .Type := by
  have hc : convertAll n (l₁ ++ .other :: l₂) = .error .Type := by
    induction l₁ with
    | nil => simp [convertAll, convert, bind, Except.bind]
    | cons x xs ih =>
      have h1 := (convert_ok (hv x (by simp))).1
      have h2 := ih (fun y hy => hv y (by simp [hy]))
      simp only [List.cons_append, convertAll, h1, h2, bind, Except.bind]
  have hall : (l₁ ++ .other :: l₂).all Opnd.isIvl = false := by
    simp [Opnd.isIvl]
  constructor
  · simp only [envelope, hall, hc, bind, Except.bind]; rfl
  · simp only [imposition, hc, bind, Except.bind]

/-! ## ★ containment test -/

theorem getLastD_le {a b : List Rat} (h : PLe a b) (d e : Rat) (hde : d ≤ e) : a.getLastD d ≤ b.getLastD e := by
  induction h generalizing d e with
  | nil => simpa using hde
  | cons hab _ ih => simp only [List.getLastD_cons]; exact ih _ _ hab

theorem headD_le {a b : List Rat} (h : PLe a b) (d e : Rat) (hde : d ≤ e) : a.headD d ≤ b.headD e := by
  cases h with
  | nil => simpa using hde
  | cons hab _ => simpa using hab

/-- `Pbox.__contains__` on an object is exactly the support test -/
theorem contains_iff_support (P : PB) (l h : Rat) :
    containsP P (.obj l h) = .ok true ↔ (PBox.lo P ≤ l ∧ h ≤ PBox.hi P) := by
  simp [containsP]

theorem contains_num_iff (P : PB) (c : Rat) :
    containsP P (.num c) = .ok true ↔ (PBox.lo P ≤ c ∧ c ≤ PBox.hi P) := by
  simp [containsP]

/-- auxiliary form without the size guard (for a 0-step box `lo`/`hi` of the model read a default
where the real code raises `IndexError`; the property theorems below carry `0 < n`) -/
theorem contains_of_sub {X P : PB} (h : Sub X P) : containsP P (itemOf X) = .ok true := by
  rw [itemOf, contains_iff_support]
  exact ⟨headD_le h.1 0 0 (le_refl _), getLastD_le h.2 0 0 (le_refl _)⟩

/-- ★ `contains_sound`: the ordering implies `in` -/
theorem contains_sound {n : Nat} (hn : 0 < n) {X P : PB} (hX : WF n X) (hP : WF n P) (h : Sub X P) :
    containsP P (itemOf X) = .ok true := contains_of_sub h

theorem getLastD_replicate (k : Nat) (c : Rat) : (List.replicate k c).getLastD c = c := by
  induction k with
  | zero => rfl
  | succ m ih => rw [List.replicate_succ, List.getLastD_cons, ih]

/-- a real number lying in every step is `in` the p-box -/
theorem contains_num_sound {n : Nat} {P : PB} {c : Rat} (hn : 0 < n)
    (h : Sub ⟨List.replicate n c, List.replicate n c⟩ P) : containsP P (.num c) = .ok true := by
  have := contains_of_sub h
  rw [itemOf, contains_iff_support] at this
  rw [contains_num_iff]
  obtain ⟨k, rfl⟩ : ∃ k, n = k + 1 := ⟨n - 1, by omega⟩
  have e1 : PBox.lo ⟨List.replicate (k+1) c, List.replicate (k+1) c⟩ = c := by simp [PBox.lo, List.replicate_succ]
  have e2 : PBox.hi ⟨List.replicate (k+1) c, List.replicate (k+1) c⟩ = c := by
    simp only [PBox.hi]; rw [List.replicate_succ, List.getLastD_cons, getLastD_replicate]
  rw [e1, e2] at this
  exact this

/-- `in` is never true for an item whose range leaves the range of the p-box -/
theorem contains_excludes_outside (P : PB) (l h : Rat) (hout : l < PBox.lo P ∨ PBox.hi P < h) :
    containsP P (.obj l h) = .ok false := by
  rcases hout with h1 | h1
  · simp [containsP, not_le.mpr h1]
  · simp [containsP, not_le.mpr h1]

/-- every operand is `in` the envelope, the imposition is `in` every operand -/
theorem operand_in_env {n : Nat} (hn : 0 < n) {X Y E : PB} (hX : WF n X) (hY : WF n Y) (h : env n X Y = .ok E) :
    containsP E (itemOf X) = .ok true ∧ containsP E (itemOf Y) = .ok true := by
  obtain ⟨-, h1, h2⟩ := env_upper hX hY h
  exact ⟨contains_of_sub h1, contains_of_sub h2⟩

theorem imp_in_operand {n : Nat} (hn : 0 < n) {X Y E : PB} (hX : WF n X) (hY : WF n Y) (h : imp n X Y = .ok E) :
    containsP X (itemOf E) = .ok true ∧ containsP Y (itemOf E) = .ok true := by
  obtain ⟨h1, h2⟩ := imp_lower hX hY h
  exact ⟨contains_of_sub h1, contains_of_sub h2⟩

/-- every operand of `envelope` is `in` the result (p-box result; objects by their `lo`/`hi`) -/
theorem operand_in_envelope {n : Nat} (hn : 0 < n) (l : List Opnd) (hv : ∀ x ∈ l, Valid n x) (E : PB)
    (h : envelope n l = .ok (.pb E)) : ∀ x ∈ l, containsP E (itemOf (conv n x)) = .ok true := by
  have hmix : l.all Opnd.isIvl = false := by
    by_contra hh
    have hall : l.all Opnd.isIvl = true := by simpa using hh
    simp only [envelope, hall, if_true, bind, Except.bind] at h
    cases hr : reduceM hull2 (ivlEnds l) with
    | error e => rw [hr] at h; cases h
    | ok v => rw [hr] at h; cases h
  obtain ⟨E', e, -, u, -⟩ := envelope_lub l hv hmix
  rw [e] at h
  cases h
  exact fun x hx => contains_of_sub (u x hx)

/-- … a number operand also through the `Number` branch of `__contains__` -/
theorem number_in_envelope {n : Nat} (hn : 0 < n) (l : List Opnd) (hv : ∀ x ∈ l, Valid n x) (E : PB)
    (h : envelope n l = .ok (.pb E)) (c : Rat) (hc : Opnd.num c ∈ l) : containsP E (.num c) = .ok true := by
  have hmix : l.all Opnd.isIvl = false := by
    rw [Bool.eq_false_iff]; intro hall
    have := (List.all_eq_true.mp hall) _ hc
    simp [Opnd.isIvl] at this
  obtain ⟨E', e, -, u, -⟩ := envelope_lub l hv hmix
  rw [e] at h
  cases h
  exact contains_num_sound hn (u _ hc)

/-- the imposition is `in` every operand (as a p-box) -/
theorem imposition_in_operand {n : Nat} (hn : 0 < n) (l : List Opnd) (hne : l ≠ []) (hv : ∀ x ∈ l, Valid n x) (E : PB)
    (h : imposition n l = .ok E) : ∀ x ∈ l, containsP (conv n x) (itemOf E) = .ok true := by
  by_cases hc : ∃ z, ∀ x ∈ l, Sel (conv n x) z
  · obtain ⟨z, hz⟩ := hc
    obtain ⟨E', e, -, -, u, -⟩ := imposition_glb l hne hv z hz
    rw [e] at h
    cases h
    exact fun x hx => contains_of_sub (u x hx)
  · rw [imposition_raises l hne hv hc] at h; cases h

/-- `Interval.__contains__` is exact on reals and on scalar intervals -/
theorem interval_contains_exact (lo hi c l h : Rat) :
    (containsINum lo hi c = true ↔ (lo ≤ c ∧ c ≤ hi)) ∧
    (containsIIvl lo hi l h = true ↔ (lo ≤ l ∧ h ≤ hi)) := by
  simp [containsINum, containsIIvl]

/-- every interval of a family is `in` the hull returned by the shortcut -/
theorem interval_in_hull {n : Nat} (l : List Opnd) (hne : l ≠ []) (hv : ∀ x ∈ l, Valid n x)
    (hall : l.all Opnd.isIvl = true) (a b : Rat) (h : envelope n l = .ok (.ivl a b)) :
    ∀ lo hi, Opnd.ivl lo hi ∈ l → containsIIvl a b lo hi = true := by
  obtain ⟨a', b', e, -, u, -⟩ := hull_is_env l hne hv hall
  rw [e] at h
  cases h
  intro lo hi hm
  have := u lo hi hm
  simp [containsIIvl, this.1, this.2]

/-! ## non-vacuity: concrete instances of the hypotheses, and the functions computed on them -/

def exX : PB := ⟨[1, 2, 3], [2, 3, 4]⟩
def exY : PB := ⟨[0, 5/2, 3], [1, 3, 5]⟩
def exZ : PB := ⟨[3, 4, 5], [3, 4, 6]⟩

theorem exX_wf : WF 3 exX :=
  ⟨rfl, rfl, by decide, by decide, .cons (by decide) (.cons (by decide) (.cons (by decide) .nil))⟩
theorem exY_wf : WF 3 exY :=
  ⟨rfl, rfl, by decide +kernel, by decide, .cons (by decide) (.cons (by decide +kernel) (.cons (by decide) .nil))⟩
theorem exZ_wf : WF 3 exZ :=
  ⟨rfl, rfl, by decide, by decide, .cons (by decide) (.cons (by decide) (.cons (by decide) .nil))⟩

example : env 3 exX exY = .ok ⟨[0, 2, 3], [2, 3, 5]⟩ := by decide +kernel
/-- the steps touch (step 0 in the single point 1): the imposition exists -/
example : imp 3 exX exY = .ok ⟨[1, 5/2, 3], [1, 3, 4]⟩ := by decide +kernel
/-- no common selection: step 0 of `exX` is `[1,2]`, of `exZ` is `[3,3]` -/
example : imp 3 exX exZ = .error .Other := by decide +kernel
example : ∃ z, Sel exX z ∧ Sel exY z := ((imp_raises_iff exX_wf exY_wf).2.1).mp ⟨⟨[1, 5/2, 3], [1, 3, 4]⟩, by decide +kernel⟩
example : ¬ ∃ z, Sel exX z ∧ Sel exZ z := ((imp_raises_iff exX_wf exZ_wf).1).mp (by decide +kernel)
example : Sub exX ⟨[0, 2, 3], [2, 3, 5]⟩ := (env_upper exX_wf exY_wf (by decide +kernel)).2.1
example : (env 3 exX exY >>= fun E => env 3 E exZ) = .ok ⟨[0, 2, 3], [3, 4, 6]⟩ := by decide +kernel
/-- absorption on concrete boxes (the hypotheses are met and the executable functions agree) -/
example : imp 3 exX ⟨[0, 2, 3], [2, 3, 5]⟩ = .ok exX := imp_env_absorb exX_wf exY_wf (by decide +kernel)
example : imp 3 exX ⟨[0, 2, 3], [2, 3, 5]⟩ = .ok exX := by decide +kernel
example : env 3 exX ⟨[1, 5/2, 3], [1, 3, 4]⟩ = .ok exX := env_imp_absorb exX_wf exY_wf (by decide +kernel)
example : env 3 exX ⟨[1, 5/2, 3], [1, 3, 4]⟩ = .ok exX := by decide +kernel
/-- the order is NOT total: neither `exX ⊆ exY` nor the converse, seen through `sub_iff_env` -/
example : ¬ Sub exX exY := fun h => by
  have := (sub_iff_env exX_wf exY_wf).mp h; revert this; decide +kernel

/-- a mixed family: interval, number, p-box -/
def exFam : List Opnd := [.ivl 1 2, .num 3, .box exX]
theorem exFam_valid : ∀ x ∈ exFam, Valid 3 x := by
  intro x hx
  simp [exFam] at hx
  rcases hx with rfl | rfl | rfl
  · show (1 : Rat) ≤ 2; decide
  · trivial
  · exact exX_wf
example : exFam.all Opnd.isIvl = false := by decide
example : envelope 3 exFam = .ok (.pb ⟨[1, 1, 1], [3, 3, 4]⟩) := by decide +kernel
example : envelope 3 [.box exX, .ivl 1 2, .num 3] = envelope 3 exFam :=
  envelope_perm (by decide) (by
    intro x hx; exact exFam_valid x (by simp [exFam] at hx ⊢; tauto))
example : imposition 3 exFam = .error .Other := by decide +kernel
example : imposition 3 [.ivl 1 3, .num 2, .box exX] = .error .Other := by decide +kernel
example : imposition 3 [.ivl 1 3, .box exX, .box exY] = .ok ⟨[1, 5/2, 3], [1, 3, 3]⟩ := by decide +kernel
example : envelope 3 [.ivl 1 2, .ivl 0 1, .ivl (3/2) 5] = .ok (.ivl 0 5) := by decide +kernel
example : ([Opnd.ivl 1 2, .ivl 0 1, .ivl (3/2) 5]).all Opnd.isIvl = true := by decide
example : containsP ⟨[0, 2, 3], [2, 3, 5]⟩ (itemOf exX) = .ok true := by decide +kernel
example : containsP exX (.obj 0 3) = .ok false := by decide +kernel
example : envelope 3 exFam =
    .ok (.pb (([Opnd.num 3, .box exX].map (conv 3)).foldl envSpec (conv 3 (.ivl 1 2)))) :=
  envelope_pointwise _ _ exFam_valid (by decide)
example : imposition 3 [.ivl 1 3, .box exX, .box exY] =
    .ok (([Opnd.box exX, .box exY].map (conv 3)).foldl impSpec (conv 3 (.ivl 1 3))) :=
  imposition_pointwise _ _
    (by
      intro y hy; simp at hy
      rcases hy with rfl | rfl | rfl
      · show (1 : Rat) ≤ 3; decide
      · exact exX_wf
      · exact exY_wf)
    [1, 5/2, 3]
    (by
      intro y hy; simp at hy
      rcases hy with rfl | rfl | rfl <;>
        exact ⟨.cons (by decide +kernel) (.cons (by decide +kernel) (.cons (by decide +kernel) .nil)),
          .cons (by decide +kernel) (.cons (by decide +kernel) (.cons (by decide +kernel) .nil))⟩)
example : containsP ⟨[0, 2, 3], [2, 3, 5]⟩ (itemOf exX) = .ok true :=
  contains_sound (n := 3) (by decide) exX_wf (env_upper exX_wf exY_wf (by decide +kernel)).1
    (env_upper exX_wf exY_wf (by decide +kernel)).2.1
example : containsP exX .noattr = .error .Attribute := rfl

end Pun.EnvImp
