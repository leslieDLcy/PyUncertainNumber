import Pun.Lemmas.PBoxValid
import Pun.Lemmas.Hull
import Mathlib.Tactic.Ring
import Mathlib.Tactic.Choose
import Mathlib.Algebra.BigOperators.Fin
import Mathlib.Algebra.Order.BigOperators.Group.Finset
import Mathlib.Algebra.Group.Fin.Basic
import Mathlib.Algebra.Group.Units.Equiv
/-!
# The four-corner rules (perfect, opposite, independent) and their enclosure by a valid box

* For an operation monotone in both arguments the four-corner rule pairs lower endpoints with lower and upper with
  upper (`cornerPair_mono`); hence `perfectOp_mono`, `oppositeOp_mono` with the raw results `perfF`, `oppF`.
* `Encloses F D`, and `encloses_of_counts`: a box that bounds the counts of two outcome families encloses their
  sorted lists.
* The constructor condenses `n²` sorted values to the entries `k(n+1)` (`condense_index` in `PBoxMk`, `mk_indep_ok`).
* Enclosure for ANY operation and ANY operands: the corner minima / maxima of any pairing of the steps are outcomes of
  a selection and a coupling (`corner_counts`), so a box that is valid under all couplings encloses the perfect and the
  opposite result (`cornerPair_enclosed`); the `n × n` grid of the independent rule is the union of the `n`
  cyclic-shift couplings `i ↦ i + s`, each of which has at most `k` values below `F.left[k]`, so the grid has at most
  `n·k` and its entry `k(n+1)` is not below `F.left[k]` (`sum_card_rows_le_shifts`, `independent_enclosed`).
-/
namespace Pun.PBox
open Pun Finset

theorem mk_of_wf (n : Nat) (P : PB) (h : WF n P) : mk n false P.left P.right = .ok P :=
  mk_arr_ok n _ _ h.llen h.rlen h.lsorted h.rsorted (fun i hi => h.le i (by rw [← h.llen]; exact hi))

theorem zip4_eq_ofFn (f : Rat → Rat → Rat → Rat → Rat) (a b c d : List Rat) (n : Nat)
    (ha : a.length = n) (hb : b.length = n) (hc : c.length = n) (hd : d.length = n) :
    zip4 f a b c d = List.ofFn (fun m : Fin n => f (a[m.val]'(by omega)) (b[m.val]'(by omega))
      (c[m.val]'(by omega)) (d[m.val]'(by omega))) := by
  apply List.ext_getElem
  · simp [zip4_eq_zipWith, ha, hb, hc, hd]
  · intro i h1 h2
    simp [zip4_eq_zipWith]

/-! ## the four-corner rule for an operation monotone in both arguments -/

theorem corner_mono (op : Rat → Rat → Rat)
    (hop : ∀ p p' q q', p ≤ p' → q ≤ q' → op p q ≤ op p' q') (a b c d : Rat) (hab : a ≤ b) (hcd : c ≤ d) :
    min4 (op a c) (op a d) (op b c) (op b d) = op a c ∧ max4 (op a c) (op a d) (op b c) (op b d) = op b d := by
  have h1 : op a c ≤ op a d := hop _ _ _ _ (le_refl _) hcd
  have h2 : op a c ≤ op b c := hop _ _ _ _ hab (le_refl _)
  have h3 : op a c ≤ op b d := hop _ _ _ _ hab hcd
  have h4 : op a d ≤ op b d := hop _ _ _ _ hab (le_refl _)
  have h5 : op b c ≤ op b d := hop _ _ _ _ (le_refl _) hcd
  unfold min4 max4
  constructor
  · rw [min_eq_left h1, min_eq_left h2, min_eq_left h3]
  · exact max_eq_right (max_le (max_le h3 h4) h5)

theorem cornerPair_mono (op : Rat → Rat → Rat)
    (hop : ∀ p p' q q', p ≤ p' → q ≤ q' → op p q ≤ op p' q') (xl xr yl yr : List Rat)
    (hx : List.Forall₂ (· ≤ ·) xl xr) (hy : List.Forall₂ (· ≤ ·) yl yr) :
    cornerPair op xl xr yl yr = (List.zipWith op xl yl, List.zipWith op xr yr) := by
  induction hx generalizing yl yr with
  | nil => simp [cornerPair, zip4]
  | @cons a b ta tb hab _ ih =>
    cases hy with
    | nil => simp [cornerPair, zip4]
    | @cons c d tc td hcd htl =>
      have := ih tc td htl
      simp only [cornerPair, List.zipWith_cons_cons, zip4, Prod.mk.injEq] at this ⊢
      obtain ⟨e1, e2⟩ := corner_mono op hop a b c d hab hcd
      rw [e1, e2, this.1, this.2]
      exact ⟨rfl, rfl⟩

theorem cornerPair_congr_mem (f g : Rat → Rat → Rat) (xl xr yl yr : List Rat)
    (h : ∀ x, x ∈ xl ∨ x ∈ xr → ∀ y, y ∈ yl ∨ y ∈ yr → f x y = g x y) :
    cornerPair f xl xr yl yr = cornerPair g xl xr yl yr := by
  unfold cornerPair
  rw [zipWith_congr_mem f g xl yl (fun x hx y hy => h x (Or.inl hx) y (Or.inl hy)),
    zipWith_congr_mem f g xl yr (fun x hx y hy => h x (Or.inl hx) y (Or.inr hy)),
    zipWith_congr_mem f g xr yl (fun x hx y hy => h x (Or.inr hx) y (Or.inl hy)),
    zipWith_congr_mem f g xr yr (fun x hx y hy => h x (Or.inr hx) y (Or.inr hy))]

def perfF (op : Rat → Rat → Rat) (X Y : PB) : PB :=
  ⟨sortR (List.zipWith op X.left Y.left), sortR (List.zipWith op X.right Y.right)⟩

def oppF (op : Rat → Rat → Rat) (X Y : PB) : PB :=
  ⟨sortR (List.zipWith op X.left Y.left.reverse), sortR (List.zipWith op X.right Y.right.reverse)⟩

theorem perfectOp_mono (op : Rat → Rat → Rat)
    (hop : ∀ p p' q q', p ≤ p' → q ≤ q' → op p q ≤ op p' q') (n : Nat) (X Y : PB) (hX : WF n X) (hY : WF n Y) :
    perfectOp op X Y = ((perfF op X Y).left, (perfF op X Y).right) ∧
    mk n false (perfF op X Y).left (perfF op X Y).right = .ok (perfF op X Y) ∧ WF n (perfF op X Y) := by
  have fx := forall₂_of_wf n X hX
  have fy := forall₂_of_wf n Y hY
  refine ⟨?_, ?_⟩
  · unfold perfectOp
    rw [cornerPair_mono op hop _ _ _ _ fx fy]
    rfl
  · exact mk_sorted_ok n _ _ (by simp [hX.llen, hY.llen]) (by simp [hX.rlen, hY.rlen])
      (forall₂_zipWith fx fy hop)

theorem oppositeOp_mono (op : Rat → Rat → Rat)
    (hop : ∀ p p' q q', p ≤ p' → q ≤ q' → op p q ≤ op p' q') (n : Nat) (X Y : PB) (hX : WF n X) (hY : WF n Y) :
    oppositeOp op X Y = ((oppF op X Y).left, (oppF op X Y).right) ∧
    mk n false (oppF op X Y).left (oppF op X Y).right = .ok (oppF op X Y) ∧ WF n (oppF op X Y) := by
  have fx := forall₂_of_wf n X hX
  have fy : List.Forall₂ (· ≤ ·) Y.left.reverse Y.right.reverse :=
    List.rel_reverse (forall₂_of_wf n Y hY)
  refine ⟨?_, ?_⟩
  · unfold oppositeOp
    rw [cornerPair_mono op hop _ _ _ _ fx fy]
    rfl
  · exact mk_sorted_ok n _ _ (by simp [hX.llen, hY.llen]) (by simp [hX.rlen, hY.rlen])
      (forall₂_zipWith fx fy hop)

theorem perfectOp_mul_eq (X Y : PB) (pX : NonNeg X) (pY : NonNeg Y) :
    perfectOp (· * ·) X Y = perfectOp mulPos X Y := by
  unfold perfectOp
  rw [cornerPair_congr_mem (· * ·) mulPos _ _ _ _ (fun x hx y hy =>
    (mulPos_eq x y (hx.elim (pX.1 x) (pX.2 x)) (hy.elim (pY.1 y) (pY.2 y))).symm)]

theorem oppositeOp_mul_eq (X Y : PB) (pX : NonNeg X) (pY : NonNeg Y) :
    oppositeOp (· * ·) X Y = oppositeOp mulPos X Y := by
  unfold oppositeOp
  rw [cornerPair_congr_mem (· * ·) mulPos _ _ _ _ (fun x hx y hy =>
    (mulPos_eq x y (hx.elim (pX.1 x) (pX.2 x))
      (hy.elim (fun h => pY.1 y (List.mem_reverse.mp h)) (fun h => pY.2 y (List.mem_reverse.mp h)))).symm)]

theorem perfF_mul_eq (X Y : PB) (pX : NonNeg X) (pY : NonNeg Y) : perfF mulPos X Y = perfF (· * ·) X Y := by
  unfold perfF
  rw [zipWith_congr_mem mulPos (· * ·) X.left Y.left (fun x hx y hy => mulPos_eq x y (pX.1 x hx) (pY.1 y hy)),
    zipWith_congr_mem mulPos (· * ·) X.right Y.right (fun x hx y hy => mulPos_eq x y (pX.2 x hx) (pY.2 y hy))]

theorem oppF_mul_eq (X Y : PB) (pX : NonNeg X) (pY : NonNeg Y) : oppF mulPos X Y = oppF (· * ·) X Y := by
  unfold oppF
  rw [zipWith_congr_mem mulPos (· * ·) X.left Y.left.reverse
      (fun x hx y hy => mulPos_eq x y (pX.1 x hx) (pY.1 y (List.mem_reverse.mp hy))),
    zipWith_congr_mem mulPos (· * ·) X.right Y.right.reverse
      (fun x hx y hy => mulPos_eq x y (pX.2 x hx) (pY.2 y (List.mem_reverse.mp hy)))]

theorem independentOp_mul_eq (X Y : PB) (pX : NonNeg X) (pY : NonNeg Y) :
    independentOp (· * ·) X Y = independentOp mulPos X Y := by
  have e : ∀ (a b : List Rat), (∀ x ∈ a, 0 ≤ x) → (∀ y ∈ b, 0 ≤ y) →
      cartesian (· * ·) a b = cartesian mulPos a b := by
    intro a b ha hb
    unfold cartesian
    apply List.flatMap_congr
    intro x hx
    apply List.map_congr_left
    intro y hy
    exact (mulPos_eq x y (ha x hx) (hb y hy)).symm
  unfold independentOp cornersSorted
  rw [e _ _ pX.1 pY.1, e _ _ pX.1 pY.2, e _ _ pX.2 pY.1, e _ _ pX.2 pY.2]

/-! ## enclosure -/

/-- `F` encloses `D`: `F.left ≤ D.left` and `D.right ≤ F.right` at every step -/
def Encloses (F D : PB) : Prop :=
  ∀ (k : Nat) (l r dl dr : Rat), F.left[k]? = some l → F.right[k]? = some r →
    D.left[k]? = some dl → D.right[k]? = some dr → l ≤ dl ∧ dr ≤ r

theorem encloses_of_counts {n : Nat} (F D : PB) (hlen : F.left.length = n) (zL zR : Fin n → Rat)
    (hc : ∀ (k : Fin n) (l r : Rat), F.left[k.val]? = some l → F.right[k.val]? = some r →
      (univ.filter (fun m : Fin n => zL m < l)).card ≤ k.val ∧
      (univ.filter (fun m : Fin n => r < zR m)).card ≤ n - 1 - k.val)
    (sl : D.left.Pairwise (· ≤ ·)) (sr : D.right.Pairwise (· ≤ ·))
    (pl : D.left.Perm (List.ofFn zL)) (pr : D.right.Perm (List.ofFn zR)) : Encloses F D := by
  intro k l r dl dr hl hr hdl hdr
  have hk : k < n := by
    rw [← hlen]
    exact (List.getElem?_eq_some_iff.mp hl).1
  obtain ⟨c1, c2⟩ := hc ⟨k, hk⟩ l r hl hr
  obtain ⟨h1, rfl⟩ := List.getElem?_eq_some_iff.mp hdl
  obtain ⟨h2, rfl⟩ := List.getElem?_eq_some_iff.mp hdr
  constructor
  · apply le_sorted_getElem_of_countP D.left _ sl pl k h1
    rw [countP_ofFn zL (fun v => v < l)]
    exact c1
  · apply sorted_getElem_le_of_countP D.right _ sr pr k h2
    rw [countP_ofFn zR (fun v => r < v), List.length_ofFn]
    exact c2

theorem zipWith_eq_ofFn (op : Rat → Rat → Rat) (a b : List Rat) (n : Nat) (ha : a.length = n) (hb : b.length = n) :
    List.zipWith op a b = List.ofFn (fun m : Fin n => op (a[m.val]'(by omega)) (b[m.val]'(by omega))) := by
  apply List.ext_getElem
  · simp [ha, hb]
  · intro i h1 h2
    simp

theorem getElem_reverse_rev {n : Nat} (l : List Rat) (hl : l.length = n) (m : Fin n) :
    l.reverse[m.val]'(by simp [hl]) = l[(Fin.revPerm m).val]'(by rw [hl]; exact (Fin.revPerm m).isLt) := by
  simp only [List.getElem_reverse, Fin.revPerm_apply, Fin.val_rev]
  congr 1
  omega

theorem sel_left (n : Nat) (X : PB) (hX : WF n X) :
    Sel n X hX.toWFS (fun m => X.left[m.val]'(by have := hX.llen; omega)) :=
  fun m => ⟨le_refl _, hX.le m.val m.isLt⟩

theorem sel_right (n : Nat) (X : PB) (hX : WF n X) :
    Sel n X hX.toWFS (fun m => X.right[m.val]'(by have := hX.rlen; omega)) :=
  fun m => ⟨hX.le m.val m.isLt, le_refl _⟩

theorem pairing_enclosed (op : Rat → Rat → Rat) (n : Nat) (X Y F : PB) (hX : WF n X) (hY : WF n Y)
    (hlen : F.left.length = n) (v : AllValid n op X Y F hX.toWFS hY.toWFS) (τ : Equiv.Perm (Fin n))
    (yl yr : List Rat) (h1 : yl.length = n) (h2 : yr.length = n)
    (e1 : ∀ m : Fin n, yl[m.val]'(by omega) = Y.left[(τ m).val]'(by have := hY.llen; omega))
    (e2 : ∀ m : Fin n, yr[m.val]'(by omega) = Y.right[(τ m).val]'(by have := hY.rlen; omega)) :
    Encloses F ⟨sortR (List.zipWith op X.left yl), sortR (List.zipWith op X.right yr)⟩ := by
  refine encloses_of_counts F _ hlen _ _ (fun k l r hl hr =>
    ⟨(v _ _ (sel_left n X hX) (sel_left n Y hY) τ k l r hl hr).1,
      (v _ _ (sel_right n X hX) (sel_right n Y hY) τ k l r hl hr).2⟩)
    (sortR_sorted _) (sortR_sorted _) ?_ ?_
  · simp only [← e1]
    rw [← zipWith_eq_ofFn op X.left yl n hX.llen h1]
    exact sortR_perm _
  · simp only [← e2]
    rw [← zipWith_eq_ofFn op X.right yr n hX.rlen h2]
    exact sortR_perm _

theorem good_encloses_perfect (op : Rat → Rat → Rat) (n : Nat) (X Y F : PB) (hX : WF n X) (hY : WF n Y)
    (hlen : F.left.length = n ∧ F.right.length = n) (g : Good n op X Y F hX.toWFS hY.toWFS) :
    Encloses F (perfF op X Y) :=
  pairing_enclosed op n X Y F hX hY hlen.1 g.allValid (Equiv.refl _) Y.left Y.right hY.llen hY.rlen
    (fun _ => rfl) (fun _ => rfl)

theorem good_encloses_opposite (op : Rat → Rat → Rat) (n : Nat) (X Y F : PB) (hX : WF n X) (hY : WF n Y)
    (hlen : F.left.length = n ∧ F.right.length = n) (g : Good n op X Y F hX.toWFS hY.toWFS) :
    Encloses F (oppF op X Y) :=
  pairing_enclosed op n X Y F hX hY hlen.1 g.allValid Fin.revPerm Y.left.reverse Y.right.reverse
    (by simp [hY.llen]) (by simp [hY.rlen]) (getElem_reverse_rev _ hY.llen) (getElem_reverse_rev _ hY.rlen)

/-! ## condensation of `n²` sorted values by the constructor -/

theorem mk_condense_ok (n : Nat) (l r : List Rat) (hlr : l.length = r.length) (hlt : n < l.length)
    (sl : l.Pairwise (· ≤ ·)) (sr : r.Pairwise (· ≤ ·)) (hle : List.Forall₂ (· ≤ ·) l r) :
    mk n false l r = .ok ⟨condense n l, condense n r⟩ ∧ WF n ⟨condense n l, condense n r⟩ :=
  ⟨mk_ok_condense n false l r hlt sl sr hle,
    ⟨condense_length n l, condense_length n r, condense_sorted n l (by omega) sl, condense_sorted n r (by omega) sr⟩,
    fun i h => getElem_le_of_forall₂ (condense_forall₂ n hle) i _ _⟩

theorem mk_indep_ok (n : Nat) (l r : List Rat) (hl : l.length = n * n) (hr : r.length = n * n)
    (sl : l.Pairwise (· ≤ ·)) (sr : r.Pairwise (· ≤ ·)) (hle : List.Forall₂ (· ≤ ·) l r) :
    ∃ D, mk n false l r = .ok D ∧ WF n D ∧
      ∀ k, k < n → D.left[k]? = l[k * (n + 1)]? ∧ D.right[k]? = r[k * (n + 1)]? := by
  rcases Nat.lt_or_ge n 2 with hn | hn
  · -- n ≤ 1: nothing is condensed
    have hnn : n * n = n := by
      rcases Nat.eq_zero_or_pos n with h0 | h0
      · subst h0; rfl
      · have : n = 1 := by omega
        subst this; rfl
    rw [hnn] at hl hr
    have w : WF n ⟨l, r⟩ := ⟨⟨hl, hr, sl, sr⟩, fun i h => getElem_le_of_forall₂ hle i (by omega) _⟩
    refine ⟨⟨l, r⟩, mk_of_wf n ⟨l, r⟩ w, w, fun k hk => ?_⟩
    have hk0 : k = 0 := by omega
    subst hk0
    simp
  · have hlt : n < n * n := by
      have := Nat.mul_le_mul_left n hn
      omega
    obtain ⟨e, w⟩ := mk_condense_ok n l r (by rw [hl, hr]) (by omega) sl sr hle
    refine ⟨_, e, w, fun k hk => ?_⟩
    rw [condense_getElem? n l (by omega) k hk, condense_getElem? n r (by omega) k hk]
    simp only [hl, hr, condense_index n k hn]
    exact ⟨(List.getElem?_eq_getElem _).symm, (List.getElem?_eq_getElem _).symm⟩

/-! ## the `n × n` grid of corner values -/

def cornerRow (f : Rat → Rat → Rat → Rat → Rat) (op : Rat → Rat → Rat) (a b : Rat) (yl yr : List Rat) : List Rat :=
  zip4 f (yl.map (fun y => op a y)) (yr.map (fun y => op a y)) (yl.map (fun y => op b y)) (yr.map (fun y => op b y))

/-- the `n²` corner minima / maxima (`f = min4`, `max4`); `cornersSorted` sorts them -/
def cornerGrid (f : Rat → Rat → Rat → Rat → Rat) (op : Rat → Rat → Rat) (xl xr yl yr : List Rat) : List Rat :=
  zip4 f (cartesian op xl yl) (cartesian op xl yr) (cartesian op xr yl) (cartesian op xr yr)

theorem cornerGrid_cons (f : Rat → Rat → Rat → Rat → Rat) (op : Rat → Rat → Rat) (a b : Rat)
    (ta tb yl yr : List Rat) (hlen : yl.length = yr.length) :
    cornerGrid f op (a :: ta) (b :: tb) yl yr = cornerRow f op a b yl yr ++ cornerGrid f op ta tb yl yr := by
  simp only [cornerGrid, cornerRow, cartesian_cons]
  rw [zip4_append _ _ _ _ _ _ _ _ _ (by simp [hlen]) (by simp) (by simp [hlen])]

theorem cornerGrid_length (f : Rat → Rat → Rat → Rat → Rat) (op : Rat → Rat → Rat) (xl xr yl yr : List Rat) (n : Nat)
    (h1 : xl.length = n) (h2 : xr.length = n) (h3 : yl.length = n) (h4 : yr.length = n) :
    (cornerGrid f op xl xr yl yr).length = n * n := by
  unfold cornerGrid
  apply zip4_length <;> simp [cartesian_length, h1, h2, h3, h4]

theorem cornerRow_eq_ofFn (f : Rat → Rat → Rat → Rat → Rat) (op : Rat → Rat → Rat) (a b : Rat) (yl yr : List Rat)
    (N : Nat) (hyl : yl.length = N) (hyr : yr.length = N) :
    cornerRow f op a b yl yr = List.ofFn (fun j : Fin N =>
      f (op a (yl[j.val]'(by omega))) (op a (yr[j.val]'(by omega))) (op b (yl[j.val]'(by omega))) (op b (yr[j.val]'(by omega)))) := by
  unfold cornerRow
  rw [zip4_eq_ofFn f _ _ _ _ N (by simpa using hyl) (by simpa using hyr) (by simpa using hyl) (by simpa using hyr)]
  simp only [List.getElem_map]

theorem countP_cornerGrid_eq_sum (f : Rat → Rat → Rat → Rat → Rat) (op : Rat → Rat → Rat) (P : Rat → Prop)
    [DecidablePred P] (yl yr : List Rat) (N : Nat) (hyl : yl.length = N) (hyr : yr.length = N) :
    ∀ (k : Nat) (xl xr : List Rat) (hxl : xl.length = k) (hxr : xr.length = k),
      (cornerGrid f op xl xr yl yr).countP (fun v => decide (P v)) =
        ∑ i : Fin k, (univ.filter (fun j : Fin N =>
          P (f (op (xl[i.val]'(by omega)) (yl[j.val]'(by omega))) (op (xl[i.val]'(by omega)) (yr[j.val]'(by omega)))
               (op (xr[i.val]'(by omega)) (yl[j.val]'(by omega))) (op (xr[i.val]'(by omega)) (yr[j.val]'(by omega)))))).card := by
  intro k
  induction k with
  | zero =>
    intro xl xr hxl hxr
    have e1 := List.eq_nil_of_length_eq_zero hxl
    have e2 := List.eq_nil_of_length_eq_zero hxr
    subst e1 e2
    simp [cornerGrid, cartesian, zip4]
  | succ k ih =>
    intro xl xr hxl hxr
    cases xl with
    | nil => simp at hxl
    | cons a ta =>
    cases xr with
    | nil => simp at hxr
    | cons b tb =>
      rw [cornerGrid_cons f op a b ta tb yl yr (by rw [hyl, hyr]), List.countP_append, Fin.sum_univ_succ,
        ih ta tb (by simpa using hxl) (by simpa using hxr), cornerRow_eq_ofFn f op a b yl yr N hyl hyr, countP_ofFn]
      simp only [Fin.val_zero, List.getElem_cons_zero, Fin.val_succ, List.getElem_cons_succ]
      rfl

/-- corner value (`f = min4` or `max4`) of step `i` of `X` against step `j` of `Y` -/
def cell (f : Rat → Rat → Rat → Rat → Rat) (op : Rat → Rat → Rat) {n : Nat} {X Y : PB} (hX : WFS n X) (hY : WFS n Y)
    (i j : Fin n) : Rat :=
  f (op (X.left[i.val]'(by have := hX.llen; omega)) (Y.left[j.val]'(by have := hY.llen; omega)))
    (op (X.left[i.val]'(by have := hX.llen; omega)) (Y.right[j.val]'(by have := hY.rlen; omega)))
    (op (X.right[i.val]'(by have := hX.rlen; omega)) (Y.left[j.val]'(by have := hY.llen; omega)))
    (op (X.right[i.val]'(by have := hX.rlen; omega)) (Y.right[j.val]'(by have := hY.rlen; omega)))

theorem countP_cornerGrid (f : Rat → Rat → Rat → Rat → Rat) (op : Rat → Rat → Rat) (P : Rat → Prop)
    [DecidablePred P] {n : Nat} {X Y : PB} (hX : WFS n X) (hY : WFS n Y) :
    (cornerGrid f op X.left X.right Y.left Y.right).countP (fun v => decide (P v)) =
      ∑ i : Fin n, (univ.filter (fun j : Fin n => P (cell f op hX hY i j))).card :=
  countP_cornerGrid_eq_sum f op P Y.left Y.right n hY.llen hY.rlen n X.left X.right hX.llen hX.rlen

theorem card_coupling_le_sum {n : Nat} (Q : Fin n → Fin n → Prop) [∀ i j, Decidable (Q i j)] (s : Fin n → Fin n) :
    (univ.filter (fun m : Fin n => Q m (s m))).card ≤ ∑ i : Fin n, (univ.filter (fun j : Fin n => Q i j)).card := by
  rw [Finset.card_filter]
  apply Finset.sum_le_sum
  intro m _
  split
  · rename_i h
    exact Finset.card_pos.mpr ⟨s m, by simp [h]⟩
  · exact Nat.zero_le _

theorem card_coupling_le_countP (f : Rat → Rat → Rat → Rat → Rat) (op : Rat → Rat → Rat) (P : Rat → Prop)
    [DecidablePred P] {n : Nat} {X Y : PB} (hX : WFS n X) (hY : WFS n Y) (s : Fin n → Fin n) :
    (univ.filter (fun m : Fin n => P (cell f op hX hY m (s m)))).card ≤
      (cornerGrid f op X.left X.right Y.left Y.right).countP (fun v => decide (P v)) := by
  rw [countP_cornerGrid f op P hX hY]
  exact card_coupling_le_sum (fun i j => P (cell f op hX hY i j)) s

/-- double counting over the cyclic shifts `i ↦ i + s` -/
theorem sum_card_rows_le_shifts {n : Nat} [NeZero n] (Q : Fin n → Fin n → Prop) [∀ i j, Decidable (Q i j)] (c : Nat)
    (h : ∀ s : Fin n, (univ.filter (fun i : Fin n => Q i (i + s))).card ≤ c) :
    ∑ i : Fin n, (univ.filter (fun j : Fin n => Q i j)).card ≤ n * c := by
  have e : ∀ i : Fin n, (univ.filter (fun j : Fin n => Q i j)).card =
      (univ.filter (fun s : Fin n => Q i (i + s))).card := fun i => by
    have := Frechet.card_filter_comp_perm (Equiv.addLeft i) (fun j => Q i j)
    simp only [Equiv.coe_addLeft] at this
    exact this.symm
  calc ∑ i : Fin n, (univ.filter (fun j : Fin n => Q i j)).card
      = ∑ i : Fin n, (univ.filter (fun s : Fin n => Q i (i + s))).card := Finset.sum_congr rfl (fun i _ => e i)
    _ = ∑ i : Fin n, ∑ s : Fin n, (if Q i (i + s) then 1 else 0) := by simp_rw [Finset.card_filter]
    _ = ∑ s : Fin n, ∑ i : Fin n, (if Q i (i + s) then 1 else 0) := Finset.sum_comm
    _ = ∑ s : Fin n, (univ.filter (fun i : Fin n => Q i (i + s))).card := by simp_rw [Finset.card_filter]
    _ ≤ ∑ _s : Fin n, c := Finset.sum_le_sum (fun s _ => h s)
    _ = n * c := by simp

/-! ## any valid box encloses the perfect / opposite / independent result of ANY operands -/

theorem min4_mem (p q r s : Rat) : min4 p q r s = p ∨ min4 p q r s = q ∨ min4 p q r s = r ∨ min4 p q r s = s := by
  rw [min4_eq_arith]
  exact Arith.min4_mem p q r s

theorem max4_mem (p q r s : Rat) : max4 p q r s = p ∨ max4 p q r s = q ∨ max4 p q r s = r ∨ max4 p q r s = s := by
  rw [max4_eq_arith]
  exact Arith.max4_mem p q r s

theorem corner_attained (op : Rat → Rat → Rat) (a b c d : Rat) (hab : a ≤ b) (hcd : c ≤ d) (v : Rat)
    (hv : v = op a c ∨ v = op a d ∨ v = op b c ∨ v = op b d) :
    ∃ x y, (a ≤ x ∧ x ≤ b) ∧ (c ≤ y ∧ y ≤ d) ∧ op x y = v := by
  rcases hv with h | h | h | h
  · exact ⟨a, c, ⟨le_refl _, hab⟩, ⟨le_refl _, hcd⟩, h.symm⟩
  · exact ⟨a, d, ⟨le_refl _, hab⟩, ⟨hcd, le_refl _⟩, h.symm⟩
  · exact ⟨b, c, ⟨hab, le_refl _⟩, ⟨le_refl _, hcd⟩, h.symm⟩
  · exact ⟨b, d, ⟨hab, le_refl _⟩, ⟨hcd, le_refl _⟩, h.symm⟩

theorem corner_counts (op : Rat → Rat → Rat) (n : Nat) (X Y F : PB) (hX : WF n X) (hY : WF n Y)
    (v : AllValid n op X Y F hX.toWFS hY.toWFS) (τ : Equiv.Perm (Fin n)) (i : Fin n) (l r : Rat)
    (hl : F.left[i.val]? = some l) (hr : F.right[i.val]? = some r) :
    (univ.filter (fun m : Fin n => cell min4 op hX.toWFS hY.toWFS m (τ m) < l)).card ≤ i.val ∧
    (univ.filter (fun m : Fin n => r < cell max4 op hX.toWFS hY.toWFS m (τ m))).card ≤ n - 1 - i.val := by
  have att := fun (m : Fin n) (w : Rat) => corner_attained op _ _ _ _ (hX.le m.val m.isLt) (hY.le (τ m).val (τ m).isLt) w
  choose xs ys hxs hys hmin using fun m => att m _ (min4_mem _ _ _ _)
  choose xs' ys' hxs' hys' hmax using fun m => att m _ (max4_mem _ _ _ _)
  have selY : ∀ (w : Fin n → Rat), (∀ m, Y.left[(τ m).val]'(by have := hY.llen; omega) ≤ w m ∧
      w m ≤ Y.right[(τ m).val]'(by have := hY.rlen; omega)) → Sel n Y hY.toWFS (fun j => w (τ.symm j)) := by
    intro w hw j
    have := hw (τ.symm j)
    simp only [Equiv.apply_symm_apply] at this
    exact this
  constructor
  · have key := (v xs (fun j => ys (τ.symm j)) hxs (selY ys hys) τ i l r hl hr).1
    simp only [Equiv.symm_apply_apply, hmin] at key
    exact key
  · have key := (v xs' (fun j => ys' (τ.symm j)) hxs' (selY ys' hys') τ i l r hl hr).2
    simp only [Equiv.symm_apply_apply, hmax] at key
    exact key

theorem mk_cornerPair_ok (op : Rat → Rat → Rat) (n : Nat) (xl xr yl yr : List Rat)
    (h1 : xl.length = n) (h2 : xr.length = n) (h3 : yl.length = n) (h4 : yr.length = n) :
    mk n false (sortR (cornerPair op xl xr yl yr).1) (sortR (cornerPair op xl xr yl yr).2) =
      .ok ⟨sortR (cornerPair op xl xr yl yr).1, sortR (cornerPair op xl xr yl yr).2⟩ := by
  refine (mk_sorted_ok n _ _ ?_ ?_ ?_).1
  · simp only [cornerPair]; apply zip4_length <;> simp [h1, h2, h3, h4]
  · simp only [cornerPair]; apply zip4_length <;> simp [h1, h2, h3, h4]
  · simp only [cornerPair]; exact zip4_min_le_max _ _ _ _

/-- **every box that is valid for `op X Y` under all couplings encloses the result of the four-corner
rule under any pairing `τ` of the steps** (`τ = id`: perfect, `τ = rev`: opposite; `yl`, `yr` are the
bounds of `Y` listed along `τ`) — for ALL operands, no sign or monotonicity hypothesis -/
theorem cornerPair_enclosed (op : Rat → Rat → Rat) (n : Nat) (X Y F D : PB) (hX : WF n X) (hY : WF n Y)
    (hlen : F.left.length = n) (v : AllValid n op X Y F hX.toWFS hY.toWFS) (τ : Equiv.Perm (Fin n))
    (yl yr : List Rat) (h1 : yl.length = n) (h2 : yr.length = n)
    (e1 : ∀ m : Fin n, yl[m.val]'(by omega) = Y.left[(τ m).val]'(by have := hY.llen; omega))
    (e2 : ∀ m : Fin n, yr[m.val]'(by omega) = Y.right[(τ m).val]'(by have := hY.rlen; omega))
    (hD : mk n false (sortR (cornerPair op X.left X.right yl yr).1) (sortR (cornerPair op X.left X.right yl yr).2) =
      .ok D) : Encloses F D := by
  have hxl := hX.llen
  have hxr := hX.rlen
  have e : ∀ f, zip4 f (List.zipWith op X.left yl) (List.zipWith op X.left yr) (List.zipWith op X.right yl)
      (List.zipWith op X.right yr) = List.ofFn (fun m => cell f op hX.toWFS hY.toWFS m (τ m)) := by
    intro f
    rw [zip4_eq_ofFn f _ _ _ _ n (by simp [hxl, h1]) (by simp [hxl, h2]) (by simp [hxr, h1]) (by simp [hxr, h2])]
    simp only [List.getElem_zipWith, e1, e2, cell]
  rw [mk_cornerPair_ok op n _ _ _ _ hxl hxr h1 h2] at hD
  obtain rfl := Except.ok.inj hD
  refine encloses_of_counts F _ hlen _ _ (corner_counts op n X Y F hX hY v τ) (sortR_sorted _) (sortR_sorted _) ?_ ?_
  · rw [← e min4]; exact sortR_perm _
  · rw [← e max4]; exact sortR_perm _

theorem perfect_enclosed (op : Rat → Rat → Rat) (n : Nat) (X Y F D : PB) (hX : WF n X) (hY : WF n Y)
    (hlen : F.left.length = n) (v : AllValid n op X Y F hX.toWFS hY.toWFS)
    (hD : mk n false (perfectOp op X Y).1 (perfectOp op X Y).2 = .ok D) : Encloses F D :=
  cornerPair_enclosed op n X Y F D hX hY hlen v (Equiv.refl _) Y.left Y.right hY.llen hY.rlen
    (fun _ => rfl) (fun _ => rfl) hD

theorem opposite_enclosed (op : Rat → Rat → Rat) (n : Nat) (X Y F D : PB) (hX : WF n X) (hY : WF n Y)
    (hlen : F.left.length = n) (v : AllValid n op X Y F hX.toWFS hY.toWFS)
    (hD : mk n false (oppositeOp op X Y).1 (oppositeOp op X Y).2 = .ok D) : Encloses F D := by
  exact cornerPair_enclosed op n X Y F D hX hY hlen v Fin.revPerm Y.left.reverse Y.right.reverse
    (by simp [hY.llen]) (by simp [hY.rlen]) (getElem_reverse_rev _ hY.llen) (getElem_reverse_rev _ hY.rlen) hD

theorem independentOp_mk (op : Rat → Rat → Rat) (n : Nat) (X Y : PB) (hX : WFS n X) (hY : WFS n Y) :
    ∃ D, mk n false (independentOp op X Y).1 (independentOp op X Y).2 = .ok D ∧ WF n D ∧ ∀ k, k < n →
      D.left[k]? = (sortR (cornerGrid min4 op X.left X.right Y.left Y.right))[k * (n + 1)]? ∧
      D.right[k]? = (sortR (cornerGrid max4 op X.left X.right Y.left Y.right))[k * (n + 1)]? := by
  have lG : ∀ f, (sortR (cornerGrid f op X.left X.right Y.left Y.right)).length = n * n :=
    fun f => by rw [sortR_length, cornerGrid_length f op _ _ _ _ n hX.llen hX.rlen hY.llen hY.rlen]
  exact mk_indep_ok n _ _ (lG min4) (lG max4) (sortR_sorted _) (sortR_sorted _)
    (sortR_forall₂ (zip4_min_le_max _ _ _ _))

theorem block_arith (n k : Nat) (hk : k < n) : n * n = n * (n - 1 - k) + n * k + n := by
  have e : n = (n - 1 - k) + k + 1 := by omega
  calc n * n = n * ((n - 1 - k) + k + 1) := by rw [← e]
    _ = n * (n - 1 - k) + n * k + n := by ring

/-- **every box that is valid for `op X Y` under all couplings encloses the independent result** (sorted
corner minima / maxima of all `n²` step pairs, condensed by the constructor) — for ALL operands -/
theorem independent_enclosed (op : Rat → Rat → Rat) (n : Nat) (X Y F D : PB) (hX : WF n X) (hY : WF n Y)
    (hlen : F.left.length = n) (v : AllValid n op X Y F hX.toWFS hY.toWFS)
    (hD : mk n false (independentOp op X Y).1 (independentOp op X Y).2 = .ok D) : Encloses F D := by
  obtain ⟨D', hD', -, hidx⟩ := independentOp_mk op n X Y hX.toWFS hY.toWFS
  rw [hD'] at hD
  obtain rfl := Except.ok.inj hD
  intro k l r dl dr hl hr hdl hdr
  have hk : k < n := by
    rw [← hlen]
    exact (List.getElem?_eq_some_iff.mp hl).1
  have : NeZero n := ⟨by omega⟩
  rw [(hidx k hk).1] at hdl
  rw [(hidx k hk).2] at hdr
  obtain ⟨h1, rfl⟩ := List.getElem?_eq_some_iff.mp hdl
  obtain ⟨h2, rfl⟩ := List.getElem?_eq_some_iff.mp hdr
  have cnt := fun s : Fin n => corner_counts op n X Y F hX hY v (Equiv.addRight s) ⟨k, hk⟩ l r hl hr
  have e1 : k * (n + 1) = n * k + k := by ring
  have e2 := block_arith n k hk
  constructor
  · apply le_sorted_getElem_of_countP _ _ (sortR_sorted _) (sortR_perm _) _ h1
    rw [countP_cornerGrid min4 op (fun x => x < l) hX.toWFS hY.toWFS]
    have := sum_card_rows_le_shifts (fun i j : Fin n => cell min4 op hX.toWFS hY.toWFS i j < l) k
      (fun s => (cnt s).1)
    omega
  · apply sorted_getElem_le_of_countP _ _ (sortR_sorted _) (sortR_perm _) _ h2
    rw [countP_cornerGrid max4 op (fun x => r < x) hX.toWFS hY.toWFS,
      cornerGrid_length max4 op _ _ _ _ n hX.llen hX.rlen hY.llen hY.rlen]
    have := sum_card_rows_le_shifts (fun i j : Fin n => r < cell max4 op hX.toWFS hY.toWFS i j) (n - 1 - k)
      (fun s => (cnt s).2)
    omega

end Pun.PBox
