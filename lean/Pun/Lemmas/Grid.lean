import Mathlib.Tactic.Linarith
import Mathlib.Tactic.Ring
import Pun.Model.Dss
/-!
# Lemmas for C08 / C18: the 'next' lookup on a weighted ecdf is the generalised inverse of the
cumulated mass (proofs P8 of DESIGN-proofs.md), and the executable model (`interpNext (extendEcdf e)`,
which `Pun.Grid.bound` maps over the grid) computes exactly that lookup on valid input.  Before that, what
C08, C14 and C18 need of lists read by index (`l[i]? = some a`): order, `allLE`, `sortedB`; and `GenInvOn`,
a bound array as the list of generalised inverses along a grid.
-/
namespace Pun.Grid

/-! ## lists read by index: order, `allLE`, `allGE`, `sortedB` -/
section
open Pun.Dss

theorem pairwise_get {l : List ℚ} (hs : l.Pairwise (· ≤ ·)) {i j : Nat} {a b : ℚ} (hij : i ≤ j)
    (ha : l[i]? = some a) (hb : l[j]? = some b) : a ≤ b := by
  obtain ⟨hi, rfl⟩ := List.getElem?_eq_some_iff.mp ha
  obtain ⟨hj, rfl⟩ := List.getElem?_eq_some_iff.mp hb
  rcases Nat.lt_or_eq_of_le hij with h | rfl
  · exact List.pairwise_iff_getElem.mp hs i j hi hj h
  · exact le_refl _

theorem pairwise_of_get {l : List ℚ}
    (h : ∀ (i j : Nat) (a b : ℚ), i < j → l[i]? = some a → l[j]? = some b → a ≤ b) : l.Pairwise (· ≤ ·) :=
  List.pairwise_iff_getElem.mpr fun i j hi hj hij =>
    h i j _ _ hij (List.getElem?_eq_getElem hi) (List.getElem?_eq_getElem hj)

theorem allLE_iff_get (l r : List ℚ) :
    allLE l r = true ↔ ∀ (i : Nat) (a b : ℚ), l[i]? = some a → r[i]? = some b → a ≤ b := by
  induction l generalizing r with
  | nil => simp [allLE]
  | cons x l ih =>
    cases r with
    | nil => simp [allLE]
    | cons y r =>
      simp only [allLE, Bool.and_eq_true, decide_eq_true_eq, ih]
      constructor
      · rintro ⟨hxy, h⟩ i a b ha hb
        cases i with
        | zero => cases ha; cases hb; exact hxy
        | succ i => exact h i a b ha hb
      · intro h
        exact ⟨h 0 x y rfl rfl, fun i a b ha hb => h (i + 1) a b ha hb⟩

theorem allLE_map_iff {α : Type} (f g : α → ℚ) (l : List α) :
    allLE (l.map f) (l.map g) = true ↔ ∀ x ∈ l, f x ≤ g x := by
  induction l with
  | nil => simp [allLE]
  | cons x r ih => simp only [List.map_cons, allLE, Bool.and_eq_true, decide_eq_true_eq, ih, List.forall_mem_cons]

theorem allGE_eq_allLE (l r : List ℚ) : allGE l r = allLE r l := by
  induction l generalizing r with
  | nil => cases r <;> rfl
  | cons x l ih =>
    cases r with
    | nil => rfl
    | cons y r => simp only [allGE, allLE, ih]

theorem sortedB_iff_pairwise (l : List ℚ) : sortedB l = true ↔ l.Pairwise (· ≤ ·) := by
  induction l with
  | nil => simp [sortedB]
  | cons x l ih =>
    cases l with
    | nil => simp [sortedB]
    | cons y r =>
      rw [sortedB, Bool.and_eq_true, decide_eq_true_eq, ih, List.pairwise_cons (a := x), List.forall_mem_cons]
      constructor
      · rintro ⟨hxy, hp⟩
        exact ⟨⟨hxy, fun z hz => le_trans hxy ((List.pairwise_cons.mp hp).1 z hz)⟩, hp⟩
      · rintro ⟨⟨hxy, _⟩, hp⟩
        exact ⟨hxy, hp⟩

end

/-- 'next'-kind lookup on a weighted, value-sorted sample: first value whose cumulated mass reaches `x` -/
def nextQ : List (ℚ × ℚ) → ℚ → ℚ → Option ℚ
  | [], _, _ => none
  | (s, w) :: rest, acc, x => if x ≤ acc + w then some s else nextQ rest (acc + w) x

/-- total mass of focal endpoints `≤ t` (the plausibility cdf for lower endpoints, belief cdf for upper) -/
def massLE : List (ℚ × ℚ) → ℚ → ℚ
  | [], _ => 0
  | (s, w) :: rest, t => (if s ≤ t then w else 0) + massLE rest t

def IsGenInv (F : ℚ → ℚ) (x s : ℚ) : Prop := x ≤ F s ∧ ∀ t, t < s → F t < x

theorem IsGenInv.unique {F : ℚ → ℚ} {x s s' : ℚ} (h : IsGenInv F x s) (h' : IsGenInv F x s') : s = s' := by
  rcases lt_trichotomy s s' with hlt | heq | hgt
  · exact absurd h.1 (not_le.mpr (h'.2 s hlt))
  · exact heq
  · exact absurd h'.1 (not_le.mpr (h.2 s' hgt))

theorem IsGenInv.le {F G : ℚ → ℚ} {p p' a b : ℚ} (hFG : ∀ t, G t ≤ F t) (hp : p ≤ p')
    (ha : IsGenInv F p a) (hb : IsGenInv G p' b) : a ≤ b := by
  by_contra hc
  have := ha.2 b (not_le.mp hc)
  have := hb.1
  have := hFG b
  linarith

def GenInvOn (g : List ℚ) (F : ℚ → ℚ) (l : List ℚ) : Prop :=
  l.length = g.length ∧ ∀ (i : Nat) (p : ℚ), g[i]? = some p → ∃ a, l[i]? = some a ∧ IsGenInv F p a

theorem GenInvOn.get {g l : List ℚ} {F : ℚ → ℚ} (h : GenInvOn g F l) {i : Nat} {a : ℚ} (ha : l[i]? = some a) :
    ∃ p, g[i]? = some p ∧ IsGenInv F p a := by
  have hi : i < g.length := h.1 ▸ (List.getElem?_eq_some_iff.mp ha).1
  obtain ⟨a', ha', hg⟩ := h.2 i g[i] (List.getElem?_eq_getElem hi)
  rw [ha, Option.some.injEq] at ha'
  exact ⟨g[i], List.getElem?_eq_getElem hi, ha' ▸ hg⟩

theorem GenInvOn.unique {g l l' : List ℚ} {F : ℚ → ℚ} (h : GenInvOn g F l) (h' : GenInvOn g F l') : l = l' := by
  apply List.ext_getElem?
  intro i
  by_cases hi : i < g.length
  · obtain ⟨a, ha, hga⟩ := h.2 i g[i] (List.getElem?_eq_getElem hi)
    obtain ⟨a', ha', hga'⟩ := h'.2 i g[i] (List.getElem?_eq_getElem hi)
    rw [ha, ha', hga.unique hga']
  · rw [List.getElem?_eq_none (by rw [h.1]; omega), List.getElem?_eq_none (by rw [h'.1]; omega)]

theorem GenInvOn.get_le {g l r : List ℚ} {F G : ℚ → ℚ} (hg : g.Pairwise (· ≤ ·)) (hFG : ∀ t, G t ≤ F t)
    (hl : GenInvOn g F l) (hr : GenInvOn g G r) {i j : Nat} {a b : ℚ} (hij : i ≤ j)
    (ha : l[i]? = some a) (hb : r[j]? = some b) : a ≤ b := by
  obtain ⟨p, hp, hga⟩ := hl.get ha
  obtain ⟨q, hq, hgb⟩ := hr.get hb
  exact hga.le hFG (pairwise_get hg hij hp hq) hgb

theorem GenInvOn.sorted {g l : List ℚ} {F : ℚ → ℚ} (hg : g.Pairwise (· ≤ ·)) (h : GenInvOn g F l) :
    l.Pairwise (· ≤ ·) :=
  pairwise_of_get fun _ _ _ _ hij => h.get_le hg (fun _ => le_refl _) h hij.le

theorem massLE_nonneg (l : List (ℚ × ℚ)) (hw : ∀ p ∈ l, 0 ≤ p.2) (t : ℚ) : 0 ≤ massLE l t := by
  induction l with
  | nil => simp [massLE]
  | cons p rest ih =>
    obtain ⟨s, w⟩ := p
    have h1 : 0 ≤ w := hw (s, w) (by simp)
    have h2 := ih (fun q hq => hw q (List.mem_cons_of_mem _ hq))
    simp only [massLE]; split <;> linarith

theorem massLE_zero_of_lt (l : List (ℚ × ℚ)) (t : ℚ) (h : ∀ p ∈ l, t < p.1) : massLE l t = 0 := by
  induction l with
  | nil => simp [massLE]
  | cons p rest ih =>
    obtain ⟨s, w⟩ := p
    have h1 : t < s := h (s, w) (by simp)
    have h2 := ih (fun q hq => h q (List.mem_cons_of_mem _ hq))
    simp [massLE, not_le.mpr h1, h2]

theorem nextQ_mem (l : List (ℚ × ℚ)) (acc x s : ℚ) (h : nextQ l acc x = some s) : ∃ p ∈ l, p.1 = s := by
  induction l generalizing acc with
  | nil => simp [nextQ] at h
  | cons p rest ih =>
    obtain ⟨s0, w0⟩ := p
    simp only [nextQ] at h
    by_cases hx : x ≤ acc + w0
    · simp only [hx, if_true, Option.some.injEq] at h
      exact ⟨(s0, w0), by simp, h⟩
    · simp only [hx, if_false] at h
      obtain ⟨p, hp, hps⟩ := ih _ h
      exact ⟨p, List.mem_cons_of_mem _ hp, hps⟩

theorem nextQ_is_geninv (l : List (ℚ × ℚ)) (hs : l.Pairwise (fun a b => a.1 ≤ b.1))
    (hw : ∀ p ∈ l, 0 ≤ p.2) (acc x s : ℚ) (hacc : acc < x) (h : nextQ l acc x = some s) :
    x ≤ acc + massLE l s ∧ ∀ t, t < s → acc + massLE l t < x := by
  induction l generalizing acc with
  | nil => simp [nextQ] at h
  | cons p rest ih =>
    obtain ⟨s0, w0⟩ := p
    rw [List.pairwise_cons] at hs
    obtain ⟨hhead, hrest⟩ := hs
    have hw0 : 0 ≤ w0 := hw (s0, w0) (by simp)
    have hwr : ∀ q ∈ rest, 0 ≤ q.2 := fun q hq => hw q (List.mem_cons_of_mem _ hq)
    simp only [nextQ] at h
    by_cases hx : x ≤ acc + w0
    · simp only [hx, if_true, Option.some.injEq] at h
      subst h
      constructor
      · simp only [massLE, le_refl, if_true]
        have := massLE_nonneg rest hwr s0
        linarith
      · intro t ht
        have hz : massLE ((s0, w0) :: rest) t = 0 := by
          apply massLE_zero_of_lt
          intro q hq
          rcases List.mem_cons.mp hq with rfl | hq
          · exact ht
          · exact lt_of_lt_of_le ht (hhead q hq)
        rw [hz]; linarith
    · simp only [hx, if_false] at h
      have hacc' : acc + w0 < x := not_le.mp hx
      obtain ⟨h1, h2⟩ := ih hrest hwr (acc + w0) hacc' h
      obtain ⟨q, hq, hqs⟩ := nextQ_mem rest _ _ _ h
      have hs0 : s0 ≤ s := hqs ▸ hhead q hq
      constructor
      · simp only [massLE, hs0, if_true]; linarith
      · intro t ht
        have := h2 t ht
        simp only [massLE]
        split <;> linarith

theorem nextQ_total (l : List (ℚ × ℚ)) (acc x : ℚ) (hx : x ≤ acc + (l.map (·.2)).sum) (hne : l ≠ []) :
    ∃ s, nextQ l acc x = some s := by
  induction l generalizing acc with
  | nil => exact absurd rfl hne
  | cons p rest ih =>
    obtain ⟨s0, w0⟩ := p
    simp only [nextQ]
    by_cases h : x ≤ acc + w0
    · exact ⟨s0, by simp [h]⟩
    · simp only [h, if_false]
      have hne' : rest ≠ [] := by
        rintro rfl
        simp at hx; exact h hx
      apply ih _ _ hne'
      simp only [List.map_cons, List.sum_cons] at hx
      linarith

example : nextQ [(1, 1/5), (2, 3/10), (3, 1/2)] 0 (1/2) = some 2 := by decide +kernel

/-! ## the cumulated mass depends on the focal elements only as a multiset, and splitting keeps it -/

theorem massLE_perm {l l' : List (ℚ × ℚ)} (h : l.Perm l') (t : ℚ) : massLE l t = massLE l' t := by
  induction h with
  | nil => rfl
  | cons x _ ih => obtain ⟨s, w⟩ := x; simp only [massLE, ih]
  | swap x y l => obtain ⟨s, w⟩ := x; obtain ⟨s', w'⟩ := y; simp only [massLE]; ring
  | trans _ _ ih1 ih2 => exact ih1.trans ih2

theorem massLE_split (s w1 w2 : ℚ) (l : List (ℚ × ℚ)) (t : ℚ) :
    massLE ((s, w1) :: (s, w2) :: l) t = massLE ((s, w1 + w2) :: l) t := by
  simp only [massLE]; split <;> ring

theorem massLE_append (l l' : List (ℚ × ℚ)) (t : ℚ) : massLE (l ++ l') t = massLE l t + massLE l' t := by
  induction l with
  | nil => simp [massLE]
  | cons p r ih => obtain ⟨s, w⟩ := p; simp only [List.cons_append, massLE, ih]; ring

/-! ## the executable model computes `nextQ` -/

theorem firstGE_cumW (L : List (ℚ × ℚ)) (acc x : ℚ) :
    firstGE ((cumW L acc).map swap) x = nextQ L acc x := by
  induction L generalizing acc with
  | nil => simp [cumW, firstGE, nextQ]
  | cons p r ih =>
    obtain ⟨s, w⟩ := p
    simp only [cumW, List.map_cons, swap, firstGE, nextQ, ih]

theorem cumW_rel (R : ℚ → ℚ → Prop) (htrans : ∀ a b c, R a b → R b c → R a c) (L : List (ℚ × ℚ)) (acc : ℚ)
    (hstep : ∀ p ∈ L, ∀ a, R a (a + p.2)) : ∀ e ∈ (cumW L acc).map swap, R acc e.1 := by
  induction L generalizing acc with
  | nil => simp [cumW]
  | cons p r ih =>
    obtain ⟨s, w⟩ := p
    have h1 : R acc (acc + w) := hstep (s, w) List.mem_cons_self acc
    intro e he
    simp only [cumW, List.map_cons, swap, List.mem_cons] at he
    rcases he with rfl | he
    · exact h1
    · exact htrans _ _ _ h1 (ih (acc + w) (fun q hq => hstep q (List.mem_cons_of_mem _ hq)) e he)

theorem cumW_ge (L : List (ℚ × ℚ)) (acc : ℚ) (hw : ∀ p ∈ L, 0 ≤ p.2) :
    ∀ p ∈ (cumW L acc).map swap, acc ≤ p.1 :=
  cumW_rel (· ≤ ·) (fun _ _ _ => le_trans) L acc fun p hp _ => le_add_of_nonneg_right (hw p hp)

theorem cumW_gt (L : List (ℚ × ℚ)) (acc : ℚ) (hpos : ∀ p ∈ L, 0 < p.2) :
    ∀ e ∈ (cumW L acc).map swap, acc < e.1 :=
  cumW_rel (· < ·) (fun _ _ _ => lt_trans) L acc fun p hp a => lt_add_of_pos_right a (hpos p hp)

theorem cumW_sorted (L : List (ℚ × ℚ)) (acc : ℚ) (hw : ∀ p ∈ L, 0 ≤ p.2) :
    ((cumW L acc).map swap).Pairwise (fun a b => a.1 ≤ b.1) := by
  induction L generalizing acc with
  | nil => simp [cumW]
  | cons p r ih =>
    obtain ⟨s, w⟩ := p
    have hwr : ∀ q ∈ r, 0 ≤ q.2 := fun q hq => hw q (List.mem_cons_of_mem _ hq)
    simp only [cumW, List.map_cons, swap, List.pairwise_cons]
    exact ⟨fun q hq => cumW_ge r (acc + w) hwr q hq, ih (acc + w) hwr⟩

theorem lastPt_eq_getLast? : ∀ l : List (ℚ × ℚ), lastPt l = l.getLast?
  | [] => rfl
  | [a] => rfl
  | a :: b :: r => by rw [lastPt, lastPt_eq_getLast? (b :: r), List.getLast?_cons_cons]

theorem lastPt_cons_ne (a : ℚ × ℚ) (e : List (ℚ × ℚ)) (h : e ≠ []) : lastPt (a :: e) = lastPt e := by
  rw [lastPt_eq_getLast?, lastPt_eq_getLast?, List.getLast?_cons_of_ne_nil h]

theorem lastPt_mem (l : List (ℚ × ℚ)) (z : ℚ × ℚ) (h : lastPt l = some z) : z ∈ l :=
  List.mem_of_getLast? (lastPt_eq_getLast? l ▸ h)

theorem lastPt_some (l : List (ℚ × ℚ)) (h : l ≠ []) : ∃ z, lastPt l = some z :=
  ⟨_, (lastPt_eq_getLast? l).trans (List.getLast?_eq_some_getLast h)⟩

theorem lastPt_ge (l : List (ℚ × ℚ)) (z : ℚ × ℚ) (hs : l.Pairwise (fun a b => a.1 ≤ b.1)) (h : lastPt l = some z) :
    ∀ e ∈ l, e.1 ≤ z.1 := by
  obtain ⟨ys, rfl⟩ := List.getLast?_eq_some_iff.mp (lastPt_eq_getLast? l ▸ h)
  intro e he
  rcases List.mem_append.mp he with he | he
  · exact (List.pairwise_append.mp hs).2.2 e he z (List.mem_singleton_self z)
  · rw [List.mem_singleton.mp he]

theorem lastPt_append (l : List (ℚ × ℚ)) (z : ℚ × ℚ) : lastPt (l ++ [z]) = some z := by
  rw [lastPt_eq_getLast?, List.getLast?_concat]

theorem extendEcdf_zero_cons (q0 : ℚ) {C : List (ℚ × ℚ)} {T ql : ℚ} (h : lastPt C = some (T, ql)) :
    extendEcdf ((0, q0) :: C) = if T = 1 then (0, q0) :: C else (0, q0) :: (C ++ [(1, ql)]) := by
  have hlast : lastPt ((0, q0) :: C) = some (T, ql) := by
    rw [lastPt_cons_ne _ _ (List.ne_nil_of_mem (lastPt_mem _ _ h)), h]
  simp only [extendEcdf, ne_eq, not_true_eq_false, if_false, hlast, ite_not, List.cons_append]

theorem lastPt_cumW (L : List (ℚ × ℚ)) (acc : ℚ) (hne : L ≠ []) :
    ∃ v, lastPt ((cumW L acc).map swap) = some (acc + (L.map (·.2)).sum, v) := by
  induction L generalizing acc with
  | nil => exact absurd rfl hne
  | cons p r ih =>
    obtain ⟨s, w⟩ := p
    cases r with
    | nil => exact ⟨s, by simp [cumW, swap, lastPt]⟩
    | cons y r' =>
      obtain ⟨v, hv⟩ := ih (acc + w) (by simp)
      refine ⟨v, ?_⟩
      simp only [cumW, List.map_cons]
      rw [lastPt_cons_ne _ _ (by simp)]
      simp only [cumW, List.map_cons] at hv
      rw [hv]; simp; ring

theorem sortByFst_of_sorted (e : List (ℚ × ℚ)) (h : e.Pairwise (fun a b => a.1 ≤ b.1)) : sortByFst e = e := by
  unfold sortByFst
  apply List.mergeSort_of_pairwise
  exact h.imp (fun hab => by simpa using hab)

theorem sortByFst_sorted (l : List (ℚ × ℚ)) : (sortByFst l).Pairwise (fun a b => a.1 ≤ b.1) := by
  have := List.pairwise_mergeSort (le := fun a b : ℚ × ℚ => decide (a.1 ≤ b.1))
    (fun a b c hab hbc => by simp only [decide_eq_true_eq] at *; exact le_trans hab hbc)
    (fun a b => by simp only [Bool.or_eq_true, decide_eq_true_eq]; exact le_total _ _) l
  exact this.imp (fun hab => by simpa using hab)

theorem sortByFst_perm (l : List (ℚ × ℚ)) : (sortByFst l).Perm l := List.mergeSort_perm _ _

theorem sortByFst_ne_nil {l : List (ℚ × ℚ)} (h : l ≠ []) : sortByFst l ≠ [] := by
  intro h0
  have hp := sortByFst_perm l
  rw [h0] at hp
  exact h hp.nil_eq.symm

theorem interpNext_inside (E : List (ℚ × ℚ)) (x : ℚ) {a b : ℚ × ℚ} (ha : a ∈ E) (hb : b ∈ E) (hax : a.1 ≤ x)
    (hxb : x ≤ b.1) : interpNext E x = firstGE (sortByFst E) x := by
  have hne : E ≠ [] := List.ne_nil_of_mem ha
  have hperm := sortByFst_perm E
  have hsorted := sortByFst_sorted E
  obtain ⟨⟨zEp, zEq⟩, hzE⟩ := lastPt_some E hne
  obtain ⟨⟨zSp, zSq⟩, hzS⟩ := lastPt_some _ (sortByFst_ne_nil hne)
  have hhi : b.1 ≤ zSp := lastPt_ge _ _ hsorted hzS b (hperm.mem_iff.mpr hb)
  cases hE : E with
  | nil => exact absurd hE hne
  | cons c rE =>
    cases hS : sortByFst E with
    | nil => exact absurd hS (sortByFst_ne_nil hne)
    | cons d rS =>
      have hlo : d.1 ≤ a.1 := by
        have ha' : a ∈ sortByFst E := hperm.mem_iff.mpr ha
        rw [hS] at ha' hsorted
        rcases List.mem_cons.mp ha' with he | he
        · rw [he]
        · exact (List.pairwise_cons.mp hsorted).1 _ he
      rw [hE] at hzE hzS hS
      obtain ⟨cp, cq⟩ := c
      obtain ⟨dp, dq⟩ := d
      rw [hS] at hzS
      simp only [interpNext, hzE, hS, hzS, not_lt.mpr (le_trans hlo hax), not_lt.mpr (le_trans hxb hhi), if_false]

theorem snd_sortByFst_zip {Q : ℚ → Prop} {w : List ℚ} (h : ∀ x ∈ w, Q x) (s : List ℚ) :
    ∀ p ∈ sortByFst (s.zip w), Q p.2 := fun p hp =>
  h p.2 (List.of_mem_zip ((sortByFst_perm _).mem_iff.mp hp)).2

theorem zip_ne_nil {s w : List ℚ} (hs : s ≠ []) (hlen : s.length = w.length) : s.zip w ≠ [] := by
  cases s with
  | nil => exact absurd rfl hs
  | cons a s =>
    cases w with
    | nil => simp at hlen
    | cons b w => simp

theorem sum_perm {l l' : List ℚ} (h : l.Perm l') : l.sum = l'.sum := by
  induction h with
  | nil => rfl
  | cons x _ ih => simp only [List.sum_cons, ih]
  | swap x y l => simp only [List.sum_cons]; ring
  | trans _ _ ih1 ih2 => exact ih1.trans ih2

theorem nextQ_sortByFst_geninv (L : List (ℚ × ℚ)) (hw : ∀ p ∈ sortByFst L, 0 ≤ p.2) (x v : ℚ) (h0 : 0 < x)
    (h : nextQ (sortByFst L) 0 x = some v) : IsGenInv (massLE L) x v := by
  obtain ⟨g1, g2⟩ := nextQ_is_geninv _ (sortByFst_sorted _) hw 0 x v h0 h
  simp only [zero_add, massLE_perm (sortByFst_perm L)] at g1 g2
  exact ⟨g1, g2⟩

structure ValidW (s w : List ℚ) : Prop where
  len : s.length = w.length
  ne : s ≠ []
  nonneg : ∀ x ∈ w, 0 ≤ x
  sum1 : w.sum = 1

theorem ValidW.of_length_eq {s s' w : List ℚ} (hv : ValidW s w) (h : s.length = s'.length) : ValidW s' w :=
  ⟨h ▸ hv.len, fun h0 => hv.ne (List.eq_nil_of_length_eq_zero (by rw [h, h0]; rfl)), hv.nonneg, hv.sum1⟩

theorem getEcdf_some (s w : List ℚ) (h : s.zip w ≠ []) : ∃ e, getEcdf s w = some e := by
  cases hL : sortByFst (s.zip w) with
  | nil => exact absurd hL (sortByFst_ne_nil h)
  | cons p r => exact ⟨(0, p.1) :: (cumW (p :: r) 0).map swap, by simp only [getEcdf, hL]⟩

theorem sorted_zip_facts (s w : List ℚ) (hv : ValidW s w) :
    sortByFst (s.zip w) ≠ [] ∧ (∀ p ∈ sortByFst (s.zip w), 0 ≤ p.2) ∧
    ((sortByFst (s.zip w)).map (·.2)).sum = 1 := by
  refine ⟨sortByFst_ne_nil (zip_ne_nil hv.ne hv.len), snd_sortByFst_zip hv.nonneg s, ?_⟩
  rw [sum_perm ((sortByFst_perm (s.zip w)).map _), List.map_snd_zip (le_of_eq hv.len.symm), hv.sum1]

theorem model_eq_nextQ (s w : List ℚ) (hv : ValidW s w) (x : ℚ) (h0 : 0 < x) (h1 : x ≤ 1) {e : List (ℚ × ℚ)}
    (he : getEcdf s w = some e) : interpNext (extendEcdf e) x = nextQ (sortByFst (s.zip w)) 0 x := by
  obtain ⟨hne, hnn, hsum⟩ := sorted_zip_facts s w hv
  generalize hL : sortByFst (s.zip w) = L at hne hnn hsum
  cases L with
  | nil => exact absurd rfl hne
  | cons p0 r =>
    obtain ⟨s0, w0⟩ := p0
    simp only [getEcdf, hL, Option.some.injEq] at he
    subst he
    obtain ⟨v, hv'⟩ := lastPt_cumW ((s0, w0) :: r) 0 (by simp)
    rw [hsum, zero_add] at hv'
    have hsorted : ((0, s0) :: (cumW ((s0, w0) :: r) 0).map swap).Pairwise (fun a b => a.1 ≤ b.1) := by
      rw [List.pairwise_cons]
      exact ⟨fun q hq => cumW_ge _ 0 hnn q hq, cumW_sorted _ 0 hnn⟩
    rw [extendEcdf_zero_cons s0 hv', if_pos rfl,
      interpNext_inside _ x List.mem_cons_self (List.mem_cons_of_mem _ (lastPt_mem _ _ hv')) h0.le h1,
      sortByFst_of_sorted _ hsorted, firstGE, if_neg (not_le.mpr h0)]
    exact firstGE_cumW _ _ _

theorem model_geninv (s w : List ℚ) (hv : ValidW s w) (x : ℚ) (h0 : 0 < x) (h1 : x ≤ 1) {e : List (ℚ × ℚ)}
    (he : getEcdf s w = some e) : ∃ v, interpNext (extendEcdf e) x = some v ∧ IsGenInv (massLE (s.zip w)) x v := by
  obtain ⟨hne, hnn, hsum⟩ := sorted_zip_facts s w hv
  obtain ⟨v, hv'⟩ := nextQ_total (sortByFst (s.zip w)) 0 x (by rw [hsum]; linarith) hne
  exact ⟨v, (model_eq_nextQ s w hv x h0 h1 he).trans hv', nextQ_sortByFst_geninv _ hnn x v h0 hv'⟩

/-! ## the masses enter only through the comparisons "level ≤ cumulated mass"

`SameCmp x M acc acc'`: along the value-sorted focal endpoints `M` (each carrying two masses `w`, `w'`) the two
running sums compare the same way against the level `x`.  `nextQ_congr`: then the two lookups agree. -/

abbrev T3 := ℚ × ℚ × ℚ

def sort3 (l : List T3) : List T3 := l.mergeSort (fun a b => decide (a.1 ≤ b.1))
def zip3 (s w w' : List ℚ) : List T3 := s.zip (w.zip w')
def pi1 (t : T3) : ℚ × ℚ := (t.1, t.2.1)
def pi2 (t : T3) : ℚ × ℚ := (t.1, t.2.2)

def SameCmp (x : ℚ) : List T3 → ℚ → ℚ → Prop
  | [], _, _ => True
  | (_, w, w') :: r, acc, acc' => (x ≤ acc + w ↔ x ≤ acc' + w') ∧ SameCmp x r (acc + w) (acc' + w')

theorem nextQ_congr (x : ℚ) (M : List T3) (acc acc' : ℚ) (h : SameCmp x M acc acc') :
    nextQ (M.map pi1) acc x = nextQ (M.map pi2) acc' x := by
  induction M generalizing acc acc' with
  | nil => rfl
  | cons t r ih =>
    obtain ⟨s, w, w'⟩ := t
    simp only [SameCmp] at h
    simp only [List.map_cons, pi1, pi2, nextQ]
    by_cases hx : x ≤ acc + w
    · simp only [hx, h.1.mp hx, if_true]
    · have hx' : ¬ x ≤ acc' + w' := fun c => hx (h.1.mpr c)
      simp only [hx, hx', if_false]
      exact ih _ _ h.2

theorem map_sort3 (f : ℚ × ℚ → ℚ) (s : List ℚ) (ws : List (ℚ × ℚ)) :
    (sort3 (s.zip ws)).map (Prod.map id f) = sortByFst (s.zip (ws.map f)) := by
  rw [List.zip_map_right]
  exact List.map_mergeSort fun _ _ _ _ => rfl

theorem sort3_pi1 (s w w' : List ℚ) (h : w.length = w'.length) :
    (sort3 (zip3 s w w')).map pi1 = sortByFst (s.zip w) :=
  (map_sort3 Prod.fst s (w.zip w')).trans (by rw [List.map_fst_zip (le_of_eq h)])

theorem sort3_pi2 (s w w' : List ℚ) (h : w.length = w'.length) :
    (sort3 (zip3 s w w')).map pi2 = sortByFst (s.zip w') :=
  (map_sort3 Prod.snd s (w.zip w')).trans (by rw [List.map_snd_zip (le_of_eq h.symm)])

/-! ### the executable model on masses that do not sum to one exactly -/

/-- every cumulated sum except the last is below one -/
def NonLastBelow : List (ℚ × ℚ) → ℚ → Prop
  | [], _ => True
  | [_], _ => True
  | (_, w) :: y :: r, acc => acc + w < 1 ∧ NonLastBelow (y :: r) (acc + w)

theorem firstGE_of_min (se : List (ℚ × ℚ)) (hs : se.Pairwise (fun a b => a.1 ≤ b.1)) (x ps qs : ℚ)
    (hmem : (ps, qs) ∈ se) (hx : x ≤ ps) (huniq : ∀ e ∈ se, x ≤ e.1 → e.1 ≤ ps → e.2 = qs) :
    firstGE se x = some qs := by
  induction se with
  | nil => cases hmem
  | cons a r ih =>
    rw [List.pairwise_cons] at hs
    rw [firstGE]
    split
    · next hxp =>
      -- the head reaches `x`; the point sought is the head or comes later in the sorted list
      have hle : a.1 ≤ ps := by
        rcases List.mem_cons.mp hmem with he | he
        · rw [← he]
        · exact hs.1 (ps, qs) he
      rw [huniq a List.mem_cons_self hxp hle]
    · next hxp =>
      have hm : (ps, qs) ∈ r := (List.mem_cons.mp hmem).resolve_left fun he => hxp (he ▸ hx)
      exact ih hs.2 hm fun e he => huniq e (List.mem_cons_of_mem _ he)

theorem nextQ_min (L : List (ℚ × ℚ)) (acc x v : ℚ) (hpos : ∀ p ∈ L, 0 < p.2) (h : nextQ L acc x = some v) :
    ∃ ps, (ps, v) ∈ (cumW L acc).map swap ∧ x ≤ ps ∧
      ∀ e ∈ (cumW L acc).map swap, x ≤ e.1 → ps ≤ e.1 ∧ (e.1 ≤ ps → e.2 = v) := by
  induction L generalizing acc with
  | nil => simp [nextQ] at h
  | cons p r ih =>
    obtain ⟨s, w⟩ := p
    have hposr : ∀ q ∈ r, 0 < q.2 := fun q hq => hpos q (List.mem_cons_of_mem _ hq)
    simp only [nextQ] at h
    simp only [cumW, List.map_cons, swap, List.forall_mem_cons]
    by_cases hx : x ≤ acc + w
    · simp only [hx, if_true, Option.some.injEq] at h
      subst h
      -- the later sums exceed `acc + w`
      exact ⟨acc + w, List.mem_cons_self, hx, fun _ => ⟨le_refl _, fun _ => rfl⟩, fun e he _ =>
        ⟨(cumW_gt r (acc + w) hposr e he).le, fun hle => absurd hle (not_le.mpr (cumW_gt r (acc + w) hposr e he))⟩⟩
    · simp only [hx, if_false] at h
      obtain ⟨ps, hm, hxp, hmin⟩ := ih (acc + w) hposr h
      exact ⟨ps, List.mem_cons_of_mem _ hm, hxp, fun hxe => absurd hxe hx, hmin⟩

theorem nonlast_last (L : List (ℚ × ℚ)) (acc : ℚ) (h : NonLastBelow L acc) :
    ∀ e ∈ (cumW L acc).map swap, ¬ e.1 < 1 → lastPt ((cumW L acc).map swap) = some e := by
  induction L generalizing acc with
  | nil => simp [cumW]
  | cons p r ih =>
    obtain ⟨s, w⟩ := p
    cases r with
    | nil =>
      intro e he _
      simp only [cumW, List.map_cons, List.map_nil, List.mem_singleton] at he
      subst he; rfl
    | cons y r' =>
      simp only [NonLastBelow] at h
      intro e he hge
      obtain ⟨s', w'⟩ := y
      simp only [cumW, List.map_cons, swap, List.mem_cons] at he
      rcases he with rfl | he
      · exact absurd h.1 hge
      · have := ih (acc + w) h.2 e (by simpa [cumW, swap] using he) hge
        simp only [cumW, List.map_cons] at this ⊢
        rw [lastPt_cons_ne _ _ (by simp)]
        exact this

theorem interpNext_cons_zero (E : List (ℚ × ℚ)) (x ps qs q0 : ℚ) (h0 : 0 < x) (hmem : (ps, qs) ∈ E) (hx : x ≤ ps)
    (huniq : ∀ e ∈ E, x ≤ e.1 → e.1 ≤ ps → e.2 = qs) : interpNext ((0, q0) :: E) x = some qs := by
  have hperm := sortByFst_perm ((0, q0) :: E)
  have hmem' : (ps, qs) ∈ (0, q0) :: E := List.mem_cons_of_mem _ hmem
  rw [interpNext_inside _ x List.mem_cons_self hmem' h0.le hx]
  refine firstGE_of_min _ (sortByFst_sorted _) x ps qs (hperm.mem_iff.mpr hmem') hx fun e he hxe => ?_
  rcases List.mem_cons.mp (hperm.mem_iff.mp he) with rfl | he
  · exact absurd hxe (not_le.mpr h0)
  · exact huniq e he hxe

/-- the masses need not sum to one exactly: the binary64 cumsum of masses that sum to one ends at `1 ± a few ulp`,
and `extend_ecdf` then appends level 1 with the last quantile -/
theorem model_eq_nextQ_pos (s w : List ℚ) (hpos : ∀ x ∈ w, 0 < x)
    (hnl : NonLastBelow (sortByFst (s.zip w)) 0) (x v : ℚ) (h0 : 0 < x) (h1 : x ≤ 1)
    (hq : nextQ (sortByFst (s.zip w)) 0 x = some v) {e : List (ℚ × ℚ)} (he : getEcdf s w = some e) :
    interpNext (extendEcdf e) x = some v := by
  have hposL : ∀ p ∈ sortByFst (s.zip w), 0 < p.2 := snd_sortByFst_zip hpos s
  generalize hL : sortByFst (s.zip w) = L at hq hnl hposL
  cases L with
  | nil => simp [nextQ] at hq
  | cons p0 r =>
    obtain ⟨s0, w0⟩ := p0
    simp only [getEcdf, hL, Option.some.injEq] at he
    subst he
    obtain ⟨ps, hm, hxp, hmin⟩ := nextQ_min _ 0 x v hposL hq
    obtain ⟨⟨T, ql⟩, hzl⟩ := lastPt_some _ (List.ne_nil_of_mem hm)
    rw [extendEcdf_zero_cons s0 hzl]
    by_cases hT : T = 1
    · -- no level appended
      rw [if_pos hT]
      exact interpNext_cons_zero _ x ps v s0 h0 hm hxp fun e he hxe => (hmin e he hxe).2
    · rw [if_neg hT]
      by_cases hps : ps < 1
      · -- the point found lies below level one: the appended level 1 comes later
        apply interpNext_cons_zero _ x ps v s0 h0 (List.mem_append_left _ hm) hxp
        intro e he hxe hle
        rcases List.mem_append.mp he with he | he
        · exact (hmin e he hxe).2 hle
        · rw [List.mem_singleton.mp he] at hle
          exact absurd hle (not_le.mpr hps)
      · -- the only cumulated sum reaching x is not below one: it is the last, and level 1 carries its quantile
        have hl := nonlast_last _ 0 hnl (ps, v) hm hps
        rw [hzl, Option.some.injEq, Prod.mk.injEq] at hl
        obtain ⟨rfl, rfl⟩ := hl
        have hps1 : 1 < T := lt_of_le_of_ne (not_lt.mp hps) (Ne.symm hT)
        apply interpNext_cons_zero _ x 1 ql s0 h0 (List.mem_append_right _ (List.mem_singleton_self _)) h1
        intro e he hxe hle
        rcases List.mem_append.mp he with he | he
        · exact absurd (le_trans (hmin e he hxe).1 hle) (not_le.mpr hps1)
        · rw [List.mem_singleton.mp he]

end Pun.Grid
