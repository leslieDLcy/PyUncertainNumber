import Pun.Lemmas.Hier
import Pun.Lemmas.WellFormed
import Pun.Lemmas.Iso
import Mathlib.Data.List.Perm.Basic
/-!
# The combination rules of `operation.py` are symmetric in their operands

For a commutative `op` and operands with the same number of steps: `frechet_op`, `perfect_op`,
`opposite_op`, `independent_op` and the naive rule return the same bounds for `(x, y)` and `(y, x)`.
-/
namespace Pun.Hier
open Pun Pun.PBox

theorem maxL_perm (d : Rat) {l l' : List Rat} (hp : l.Perm l') : maxL d l = maxL d l' := by
  by_cases hne : l = []
  · subst hne; rw [List.Perm.nil_eq hp]
  · have hne' : l' ≠ [] := fun h => hne (by subst h; exact List.Perm.eq_nil hp)
    obtain ⟨m1, u1⟩ := maxL_spec d l hne
    obtain ⟨m2, u2⟩ := maxL_spec d l' hne'
    exact le_antisymm (u2 _ (hp.subset m1)) (u1 _ (hp.symm.subset m2))

theorem minL_perm (d : Rat) {l l' : List Rat} (hp : l.Perm l') : minL d l = minL d l' := by
  by_cases hne : l = []
  · subst hne; rw [List.Perm.nil_eq hp]
  · have hne' : l' ≠ [] := fun h => hne (by subst h; exact List.Perm.eq_nil hp)
    obtain ⟨m1, u1⟩ := minL_spec d l hne
    obtain ⟨m2, u2⟩ := minL_spec d l' hne'
    exact le_antisymm (u1 _ (hp.symm.subset m2)) (u2 _ (hp.subset m1))

/-- anti-diagonal lists of `(a,b)` and `(b,a)` are reverses of each other -/
theorem zipWith_rev_comm (op : Rat → Rat → Rat) (hc : ∀ x y, op x y = op y x) (A B : List Rat)
    (h : A.length = B.length) :
    List.zipWith op B A.reverse = (List.zipWith op A B.reverse).reverse := by
  rw [List.reverse_zipWith (by simp [h]), List.reverse_reverse, List.zipWith_comm]
  congr 1
  funext x y; exact hc y x

theorem frechetLeftRaw_comm (op : Rat → Rat → Rat) (hc : ∀ x y, op x y = op y x) (a b : List Rat)
    (h : a.length = b.length) : frechetLeftRaw op a b = frechetLeftRaw op b a := by
  unfold frechetLeftRaw
  rw [h]
  apply List.map_congr_left
  intro i _
  rw [zipWith_rev_comm op hc (a.take (i+1)) (b.take (i+1)) (by simp [h])]
  exact (maxL_perm 0 (List.reverse_perm _)).symm

theorem frechetRightRaw_comm (op : Rat → Rat → Rat) (hc : ∀ x y, op x y = op y x) (a b : List Rat)
    (h : a.length = b.length) : frechetRightRaw op a b = frechetRightRaw op b a := by
  unfold frechetRightRaw
  rw [h]
  apply List.map_congr_left
  intro i _
  rw [zipWith_rev_comm op hc (a.drop i) (b.drop i) (by simp [h])]
  exact (minL_perm 0 (List.reverse_perm _)).symm

theorem frechetOp_comm (op : Rat → Rat → Rat) (hc : ∀ x y, op x y = op y x) (x y : PB)
    (hl : x.left.length = y.left.length) (hr : x.right.length = y.right.length) :
    frechetOp op x y = frechetOp op y x := by
  unfold frechetOp
  rw [frechetLeftRaw_comm op hc _ _ hl, frechetRightRaw_comm op hc _ _ hr]

theorem zip4_swap_mid (f : Rat → Rat → Rat → Rat → Rat) (hf : ∀ p q r s, f p q r s = f p r q s) :
    ∀ (a b c d : List Rat), zip4 f a b c d = zip4 f a c b d
  | [], _, _, _ => by simp [zip4]
  | _ :: _, [], [], _ => by simp [zip4]
  | _ :: _, [], _ :: _, _ => by simp [zip4]
  | _ :: _, _ :: _, [], _ => by simp [zip4]
  | _ :: _, _ :: _, _ :: _, [] => by simp [zip4]
  | p :: a, q :: b, r :: c, s :: d => by
    simp only [zip4]; rw [hf p q r s, zip4_swap_mid f hf a b c d]

theorem min4_swap_mid (p q r s : Rat) : min4 p q r s = min4 p r q s := by
  unfold min4; rw [min_assoc p q r, min_comm q r, ← min_assoc]

theorem max4_swap_mid (p q r s : Rat) : max4 p q r s = max4 p r q s := by
  unfold max4; rw [max_assoc p q r, max_comm q r, ← max_assoc]

theorem zipWith_comm' (op : Rat → Rat → Rat) (hc : ∀ x y, op x y = op y x) (a b : List Rat) :
    List.zipWith op a b = List.zipWith op b a := by
  rw [List.zipWith_comm]; congr 1; funext x y; exact hc y x

theorem cornerPair_comm (op : Rat → Rat → Rat) (hc : ∀ x y, op x y = op y x) (xl xr yl yr : List Rat) :
    cornerPair op xl xr yl yr = cornerPair op yl yr xl xr := by
  unfold cornerPair
  simp only
  rw [zipWith_comm' op hc yl xl, zipWith_comm' op hc yl xr, zipWith_comm' op hc yr xl, zipWith_comm' op hc yr xr,
    zip4_swap_mid min4 min4_swap_mid, zip4_swap_mid max4 max4_swap_mid]

theorem perfectOp_comm (op : Rat → Rat → Rat) (hc : ∀ x y, op x y = op y x) (x y : PB) :
    perfectOp op x y = perfectOp op y x := by
  unfold perfectOp; rw [cornerPair_comm op hc]

theorem zip4_reverse (f : Rat → Rat → Rat → Rat → Rat) (a b c d : List Rat)
    (h2 : a.length = b.length) (h3 : a.length = c.length) (h4 : a.length = d.length) :
    zip4 f a.reverse b.reverse c.reverse d.reverse = (zip4 f a b c d).reverse := by
  have z1 : a.reverse.zip b.reverse = (a.zip b).reverse := by
    rw [List.zip_eq_zipWith, List.zip_eq_zipWith, List.reverse_zipWith h2]
  have z2 : c.reverse.zip d.reverse = (c.zip d).reverse := by
    rw [List.zip_eq_zipWith, List.zip_eq_zipWith, List.reverse_zipWith (by omega)]
  rw [zip4_eq_zipWith, zip4_eq_zipWith, z1, z2, List.reverse_zipWith (by simp; omega)]

theorem oppositeOp_comm (op : Rat → Rat → Rat) (hc : ∀ x y, op x y = op y x) (x y : PB) (n : Nat)
    (hxl : x.left.length = n) (hxr : x.right.length = n) (hyl : y.left.length = n) (hyr : y.right.length = n) :
    oppositeOp op x y = oppositeOp op y x := by
  unfold oppositeOp
  rw [cornerPair_comm op hc y.left y.right x.left.reverse x.right.reverse]
  have key : cornerPair op x.left.reverse x.right.reverse y.left y.right =
      ((cornerPair op x.left x.right y.left.reverse y.right.reverse).1.reverse,
       (cornerPair op x.left x.right y.left.reverse y.right.reverse).2.reverse) := by
    unfold cornerPair
    simp only
    have e : ∀ (u v : List Rat), u.length = n → v.length = n →
        List.zipWith op u.reverse v = (List.zipWith op u v.reverse).reverse := by
      intro u v hu hv
      rw [List.reverse_zipWith (by simp [hu, hv]), List.reverse_reverse]
    rw [e _ _ hxl hyl, e _ _ hxl hyr, e _ _ hxr hyl, e _ _ hxr hyr,
      zip4_reverse _ _ _ _ _ (by simp [hxl, hyl, hyr]) (by simp [hxl, hxr, hyl]) (by simp [hxl, hxr, hyl, hyr]),
      zip4_reverse _ _ _ _ _ (by simp [hxl, hyl, hyr]) (by simp [hxl, hxr, hyl]) (by simp [hxl, hxr, hyl, hyr])]
  rw [key]
  simp only
  rw [sortR_congr (List.reverse_perm _), sortR_congr (List.reverse_perm _)]

theorem flatMap_nil_const {α β : Type} (l : List α) : l.flatMap (fun _ => ([] : List β)) = [] := by
  induction l with
  | nil => rfl
  | cons a t ih => simp [ih]

theorem map_eq_flatMap_single {β γ : Type} (h : β → γ) (B : List β) : B.map h = B.flatMap (fun b => [h b]) := by
  induction B with
  | nil => rfl
  | cons b tb ihb => simp [ihb]

theorem flatMap_map_transpose {α β γ : Type} (g : α → β → γ) : ∀ (A : List α) (B : List β),
    (A.flatMap (fun a => B.map (g a))).Perm (B.flatMap (fun b => A.map (fun a => g a b)))
  | [], B => by simp [flatMap_nil_const]
  | a :: t, B => by
    simp only [List.flatMap_cons, List.map_cons]
    have ih := flatMap_map_transpose g t B
    have h1 : (B.map (g a) ++ t.flatMap (fun a => B.map (g a))).Perm
        (B.flatMap (fun b => [g a b]) ++ B.flatMap (fun b => t.map (fun a => g a b))) := by
      have : B.map (g a) = B.flatMap (fun b => [g a b]) := map_eq_flatMap_single (g a) B
      rw [this]
      exact List.Perm.append_left _ ih
    refine h1.trans ?_
    have := List.flatMap_append_perm B (fun b => [g a b]) (fun b => t.map (fun a => g a b))
    simpa using this

theorem corners_comm {f : Rat → Rat → Rat → Rat → Rat} (hf : ∀ p q r s, f p q r s = f p r q s)
    {op : Rat → Rat → Rat} (hc : ∀ x y, op x y = op y x) (p q : Rat × Rat) :
    Iso.corners f op q p = Iso.corners f op p q := by
  unfold Iso.corners
  rw [hc q.1 p.1, hc q.1 p.2, hc q.2 p.1, hc q.2 p.2, hf]

/-- the `n²` corner values of `(x, y)` and of `(y, x)` are one matrix, flattened by rows and by columns -/
theorem cornersSorted_comm (op : Rat → Rat → Rat) (hc : ∀ x y, op x y = op y x) (x y : PB)
    (hx : x.left.length = x.right.length) (hy : y.left.length = y.right.length) :
    cornersSorted op x y = cornersSorted op y x := by
  have key : ∀ f : Rat → Rat → Rat → Rat → Rat, (∀ p q r s, f p q r s = f p r q s) →
      sortR (zip4 f (cartesian op x.left y.left) (cartesian op x.left y.right)
        (cartesian op x.right y.left) (cartesian op x.right y.right)) =
      sortR (zip4 f (cartesian op y.left x.left) (cartesian op y.left x.right)
        (cartesian op y.right x.left) (cartesian op y.right x.right)) := by
    intro f hf
    have e : (fun q => (x.left.zip x.right).map (Iso.corners f op q)) =
        fun q => (x.left.zip x.right).map (fun p => Iso.corners f op p q) :=
      funext fun q => List.map_congr_left fun p _ => corners_comm hf hc p q
    rw [Iso.zip4_cartesian f op hy, Iso.zip4_cartesian f op hx, e]
    exact sortR_congr (flatMap_map_transpose (Iso.corners f op) _ _)
  unfold cornersSorted
  simp only
  rw [key min4 min4_swap_mid, key max4 max4_swap_mid]

theorem independentOp_comm (op : Rat → Rat → Rat) (hc : ∀ x y, op x y = op y x) (x y : PB)
    (hx : x.left.length = x.right.length) (hy : y.left.length = y.right.length) :
    independentOp op x y = independentOp op y x := cornersSorted_comm op hc x y hx hy

theorem naiveOp_comm (op : Rat → Rat → Rat) (hc : ∀ x y, op x y = op y x) (x y : PB)
    (hx : x.left.length = x.right.length) (hy : y.left.length = y.right.length) (hxy : x.left.length = y.left.length) :
    naiveOp op x y = naiveOp op y x := by
  unfold naiveOp
  rw [cornersSorted_comm op hc x y hx hy, hxy]

structure Len (n : Nat) (p : PB) : Prop where
  l : p.left.length = n
  r : p.right.length = n

theorem WF.len {n : Nat} {p : PB} (h : WF n p) : Len n p := ⟨h.llen, h.rlen⟩

theorem wf_c04 {n : Nat} {p : PB} (h : WF n p) : Pun.WF.WF n p := ⟨h.llen, h.rlen, h.lsorted, h.rsorted, h.le⟩
theorem wf_of_c04 {n : Nat} {p : PB} (h : Pun.WF.WF n p) : WF n p := ⟨h.llen, h.rlen, h.lsorted, h.rsorted, h.le⟩
theorem wf_iso {n : Nat} {p : PB} (h : WF n p) : Pun.Iso.WF n p := ⟨h.llen, h.rlen, h.lsorted, h.rsorted, h.le⟩
theorem wf_of_iso {n : Nat} {p : PB} (h : Pun.Iso.WF n p) : WF n p := ⟨h.llen, h.rlen, h.lsorted, h.rsorted, h.valid⟩

theorem len_of_mk {n : Nat} {lists : Bool} {l r : List Rat} {P : PB} (h : mk n lists l r = .ok P) : Len n P :=
  let w := Pun.WF.mk_wfs h; ⟨w.llen, w.rlen⟩

theorem len_of_neg {n : Nat} {x P : PB} (h : neg n x = .ok P) : Len n P := len_of_mk h
theorem len_of_numberOp {n : Nat} {f : Rat → Rat → Rat} {x P : PB} {c : Rat} (h : numberOp n f x c = .ok P) : Len n P :=
  len_of_mk h
theorem len_of_classic {n : Nat} {op : Rat → Rat → Rat} {x y P : PB} (h : classicFrechet n op x y = .ok P) : Len n P := by
  unfold classicFrechet at h; exact len_of_mk h

theorem mul_c : ∀ x y : Rat, x * y = y * x := mul_comm
theorem add_c : ∀ x y : Rat, x + y = y + x := add_comm

/-! ## the public sum and product are symmetric -/

theorem add_comm_pb (n : Nat) (d : Dep) (x y : PB) (hx : Len n x) (hy : Len n y) :
    add n d x y = add n d y x := by
  cases d with
  | f => simp only [add]; rw [frechetOp_comm _ add_c x y (by rw [hx.l, hy.l]) (by rw [hx.r, hy.r])]
  | p => simp only [add]; rw [perfectOp_comm _ add_c x y]
  | o => simp only [add]; rw [oppositeOp_comm _ add_c x y n hx.l hx.r hy.l hy.r]
  | i => simp only [add]; rw [independentOp_comm _ add_c x y (by rw [hx.l, hx.r]) (by rw [hy.l, hy.r])]
  | unknown => rfl

theorem classicFrechet_comm (n : Nat) (op : Rat → Rat → Rat) (hc : ∀ x y, op x y = op y x) (x y : PB)
    (hx : Len n x) (hy : Len n y) : classicFrechet n op x y = classicFrechet n op y x := by
  unfold classicFrechet
  rw [frechetOp_comm op hc x y (by rw [hx.l, hy.l]) (by rw [hx.r, hy.r])]

theorem frechetMulNoStraddle_comm_ok (n : Nat) (x y z : PB) (hx : Len n x) (hy : Len n y)
    (h : frechetMulNoStraddle n x y = .ok z) : frechetMulNoStraddle n y x = .ok z := by
  by_cases qx : hi x ≤ 0 <;> by_cases qy : hi y ≤ 0
  · rw [noStraddle_nn n x y qx qy] at h
    obtain ⟨a, ha, h⟩ := bind_ok_inv h
    obtain ⟨b, hb, h⟩ := bind_ok_inv h
    rw [noStraddle_nn n y x qy qx, hb, ok_bind, ha, ok_bind,
      classicFrechet_comm n _ mul_c b a (len_of_neg hb) (len_of_neg ha)]
    exact h
  · rw [noStraddle_np n x y qx qy] at h
    obtain ⟨a, ha, h⟩ := bind_ok_inv h
    rw [noStraddle_pn n y x qy qx, ha, ok_bind, classicFrechet_comm n _ mul_c y a hy (len_of_neg ha)]
    exact h
  · rw [noStraddle_pn n x y qx qy] at h
    obtain ⟨b, hb, h⟩ := bind_ok_inv h
    rw [noStraddle_np n y x qy qx, hb, ok_bind, classicFrechet_comm n _ mul_c b x (len_of_neg hb) hx]
    exact h
  · rw [noStraddle_pp n x y qx qy] at h
    rw [noStraddle_pp n y x qy qx, classicFrechet_comm n _ mul_c y x hy hx]
    exact h

theorem balchprod_comm_ok (n : Nat) (x y z : PB)
    (sx : straddlesZero x = true) (sy : straddlesZero y = true)
    (h : balchprod n x y = .ok z) : balchprod n y x = .ok z := by
  unfold balchprod at h ⊢
  simp only [sx, sy, Bool.and_self, if_true] at h ⊢
  obtain ⟨xx0, h1, h⟩ := bind_ok_inv h
  obtain ⟨yy0, h2, h⟩ := bind_ok_inv h
  obtain ⟨a, h3, h⟩ := bind_ok_inv h
  obtain ⟨b1, h4, h⟩ := bind_ok_inv h
  obtain ⟨b2, h5, h⟩ := bind_ok_inv h
  obtain ⟨b, h6, h⟩ := bind_ok_inv h
  obtain ⟨s, h7, h⟩ := bind_ok_inv h
  rw [h2, ok_bind, h1, ok_bind,
    frechetMulNoStraddle_comm_ok n xx0 yy0 a (len_of_numberOp h1) (len_of_numberOp h2) h3, ok_bind,
    h5, ok_bind, h4, ok_bind,
    classicFrechet_comm n _ add_c b2 b1 (len_of_numberOp h5) (len_of_numberOp h4), h6, ok_bind, h7, ok_bind,
    mul_comm (lo y) (lo x)]
  exact h

theorem straddleFrechet_comm_ok (n : Nat) (x y z : PB) (hx : Len n x) (hy : Len n y)
    (sx : straddlesZero x = true) (sy : straddlesZero y = true)
    (h : straddleFrechet n x y = .ok z) : straddleFrechet n y x = .ok z := by
  unfold straddleFrechet at h ⊢
  have e : naiveOp (· * ·) y x = naiveOp (· * ·) x y :=
    naiveOp_comm (· * ·) mul_c y x (by rw [hy.l, hy.r]) (by rw [hx.l, hx.r]) (by rw [hy.l, hx.l])
  rw [e]
  generalize naiveOp (· * ·) x y = pr at h ⊢
  obtain ⟨zu, zd⟩ := pr
  simp only at h ⊢
  obtain ⟨nv, h1, h⟩ := bind_ok_inv h
  obtain ⟨bl, h2, h⟩ := bind_ok_inv h
  rw [h1, ok_bind, balchprod_comm_ok n x y bl sx sy h2, ok_bind]
  exact h

theorem frechetMul_comm_ok (n : Nat) (x y z : PB) (hx : Len n x) (hy : Len n y)
    (h : frechetMul n x y = .ok z) : frechetMul n y x = .ok z := by
  unfold frechetMul at h ⊢
  cases sx : straddlesZero x <;> cases sy : straddlesZero y <;>
    simp only [sx, sy, Bool.or_self, Bool.or_true, Bool.or_false, if_true, if_false,
      Bool.false_eq_true] at h ⊢
  · exact frechetMulNoStraddle_comm_ok n x y z hx hy h
  · exact h
  · exact h
  · exact straddleFrechet_comm_ok n x y z hx hy sx sy h

theorem mul_comm_ok (n : Nat) (d : Dep) (x y z : PB) (hx : Len n x) (hy : Len n y)
    (h : mul n d x y = .ok z) : mul n d y x = .ok z := by
  cases d with
  | f => exact frechetMul_comm_ok n x y z hx hy h
  | p => simp only [mul] at h ⊢; rw [perfectOp_comm _ mul_c y x]; exact h
  | o => simp only [mul] at h ⊢; rw [oppositeOp_comm _ mul_c y x n hy.l hy.r hx.l hx.r]; exact h
  | i => simp only [mul] at h ⊢; rw [independentOp_comm _ mul_c y x (by rw [hy.l, hy.r]) (by rw [hx.l, hx.r])]; exact h
  | unknown => exact h

end Pun.Hier
