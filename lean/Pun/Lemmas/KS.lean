import Pun.Model.KS
import Pun.Lemmas.Grid
import Pun.Lemmas.Sort
import Mathlib.Algebra.Order.Field.Rat
import Mathlib.Algebra.Order.Field.Basic
import Mathlib.Data.List.Sort
import Mathlib.Data.List.Forall2
/-!
# C17 helper lemmas about the model `Pun.KS`

* `clip` (= `logical_bounding`) is `min (max · 0) 1`: monotone, values in `[0,1]`, the identity on `[0,1]`;
* the grid of `get_ecdf`: `pFrom`/`ecdfP` sorted, in `[0,1]`, first entry `0`, last entry `n/n`; `ecdfQ` sorted;
* a bundle on the ecdf grid whose probabilities are `f ∘ (k/n)` draws `f ∘ F_n` from the first sample point on
  (`eval_mapped`); `f = id` is the ecdf itself (`eval_ecdf`), `f = clip (· ± D)` the band (`eval_upper`, `eval_lower`);
* counting: moving sample points to the right lowers `#{≤ t}` (`countLE_anti`), hence lowers such a step function
  (`eval_mapped_anti`);
* `'next'` lookup (`interp1d(kind="next")`): antitone in the cdf (`nextLookup_dom`,
  `nextLookup_dom_append`), what `extend_ecdf` does to a bundle and to the lookup in it, and `pbox_core`;
* the bridge from the model to P8 of DESIGN-proofs.md (`Grid.nextQ_is_geninv` in `Lemmas/Grid`): the ecdf bundle read as
  a weighted sample (`nextLookup_pFrom_eq_nextQ`, `massLE_unifW`, `interpNext_ecdf_eq_nextQ`, `eval_ecdf_eq_massLE`).
-/
namespace Pun.KS

/-! ### `clip` -/

theorem clip_eq (a : ℚ) : clip a = min (max a 0) 1 := by
  have h0 : (if a < 0 then 0 else a) = max a 0 := by
    split_ifs with h
    · exact (max_eq_right h.le).symm
    · exact (max_eq_left (not_lt.mp h)).symm
  simp only [clip, h0]
  split_ifs with h
  · exact (min_eq_left h.le).symm
  · exact (min_eq_right (not_lt.mp h)).symm

theorem clip_nonneg (a : ℚ) : 0 ≤ clip a := by
  rw [clip_eq]; exact le_min (le_max_right a 0) zero_le_one
theorem clip_le_one (a : ℚ) : clip a ≤ 1 := by
  rw [clip_eq]; exact min_le_right _ 1
theorem clip_mono {a b : ℚ} (h : a ≤ b) : clip a ≤ clip b := by
  rw [clip_eq, clip_eq]; exact min_le_min_right 1 (max_le_max_right 0 h)
theorem clip_of_mem {a : ℚ} (h0 : 0 ≤ a) (h1 : a ≤ 1) : clip a = a := by
  rw [clip_eq, max_eq_left h0, min_eq_left h1]
theorem le_clip_add {p D : ℚ} (hp0 : 0 ≤ p) (hp1 : p ≤ 1) (hD : 0 ≤ D) : p ≤ clip (p + D) :=
  (clip_of_mem hp0 hp1).ge.trans (clip_mono (le_add_of_nonneg_right hD))
theorem clip_sub_le {p D : ℚ} (hp0 : 0 ≤ p) (hp1 : p ≤ 1) (hD : 0 ≤ D) : clip (p - D) ≤ p :=
  (clip_mono (sub_le_self p hD)).trans (clip_of_mem hp0 hp1).le
theorem lt_clip_add {p D : ℚ} (hp1 : p < 1) (hD : 0 < D) : p < clip (p + D) := by
  rw [clip_eq]; exact lt_min (lt_max_of_lt_left (lt_add_of_pos_right p hD)) hp1
theorem clip_sub_lt {p D : ℚ} (hp0 : 0 < p) (hD : 0 < D) : clip (p - D) < p := by
  rw [clip_eq]; exact (min_le_left _ 1).trans_lt (max_lt (sub_lt_self p hD) hp0)

/-! ### the probability grid `pFrom`, `ecdfP` -/

theorem pFrom_eq_map (n k m : ℕ) : pFrom n k m = (List.range m).map fun i => ((k + i : ℕ) : ℚ) / n := by
  induction m generalizing k with
  | zero => rfl
  | succ m ih =>
    rw [pFrom, ih, List.range_succ_eq_map, List.map_cons, List.map_map]
    exact congrArg _ (List.map_congr_left fun i _ => by rw [Function.comp_apply, Nat.add_right_comm, Nat.add_assoc])

theorem pFrom_length (n k m : ℕ) : (pFrom n k m).length = m := by
  rw [pFrom_eq_map, List.length_map, List.length_range]

theorem pFrom_mem {n k m : ℕ} {x : ℚ} (h : x ∈ pFrom n k m) : ∃ j, k ≤ j ∧ j < k + m ∧ x = (j : ℚ) / n := by
  rw [pFrom_eq_map] at h
  obtain ⟨i, hi, rfl⟩ := List.mem_map.mp h
  exact ⟨k + i, Nat.le_add_right k i, Nat.add_lt_add_left (List.mem_range.mp hi) k, rfl⟩

theorem pFrom_sorted (n k m : ℕ) : (pFrom n k m).Pairwise (· ≤ ·) := by
  rw [pFrom_eq_map, List.pairwise_map]
  refine List.pairwise_lt_range.imp fun {i j} (h : i < j) => ?_
  exact div_le_div_of_nonneg_right (Nat.cast_le.mpr (Nat.add_le_add_left h.le k)) (Nat.cast_nonneg n)

theorem pFrom_getLast? (n k m : ℕ) : (pFrom n k (m + 1)).getLast? = some (((k + m : ℕ) : ℚ) / n) := by
  rw [pFrom_eq_map, List.getLast?_map, List.getLast?_range, if_neg (Nat.succ_ne_zero m)]
  rfl

theorem ecdfP_length (n : ℕ) : (ecdfP n).length = n + 1 := pFrom_length _ _ _

theorem ecdfP_cons (n : ℕ) : ecdfP n = 0 :: pFrom n 1 n := by
  simp [ecdfP, pFrom]

theorem ecdfP_getLast? {n : ℕ} (hn : 0 < n) : (ecdfP n).getLast? = some 1 := by
  rw [ecdfP, pFrom_getLast?, Nat.zero_add, div_self (Nat.cast_ne_zero.mpr hn.ne')]

theorem ecdfP_mem_unit {n : ℕ} (hn : 0 < n) {x : ℚ} (h : x ∈ ecdfP n) : 0 ≤ x ∧ x ≤ 1 := by
  obtain ⟨j, _, h2, rfl⟩ := pFrom_mem h
  refine ⟨div_nonneg (Nat.cast_nonneg _) (Nat.cast_nonneg _), ?_⟩
  rw [div_le_one (Nat.cast_pos.mpr hn)]
  exact Nat.cast_le.mpr (by omega)

/-! ### the quantile grid `sortR`, `ecdfQ` -/

theorem sortR_ne_nil {l : List ℚ} (h : l ≠ []) : sortR l ≠ [] := fun h' =>
  h (List.length_eq_zero_iff.mp ((sortR_length l).symm.trans (congrArg List.length h')))

theorem dupHead_sorted {l : List ℚ} (h : l.Pairwise (· ≤ ·)) : (dupHead l).Pairwise (· ≤ ·) := by
  cases l with
  | nil => exact h
  | cons x xs =>
    refine List.pairwise_cons.mpr ⟨fun y hy => ?_, h⟩
    rcases List.mem_cons.mp hy with rfl | hy
    · exact le_refl _
    · exact (List.pairwise_cons.mp h).1 y hy

theorem dupHead_length {l : List ℚ} (h : l ≠ []) : (dupHead l).length = l.length + 1 := by
  cases l with
  | nil => exact absurd rfl h
  | cons x xs => rfl

theorem ecdfQ_sorted (s : List ℚ) : (ecdfQ s).Pairwise (· ≤ ·) := dupHead_sorted (sortR_sorted s)

theorem ecdfQ_length {s : List ℚ} (h : s ≠ []) : (ecdfQ s).length = s.length + 1 := by
  rw [ecdfQ, dupHead_length (sortR_ne_nil h), sortR_length]

theorem ecdfQ_of_sortR {s xs : List ℚ} {x : ℚ} (h : sortR s = x :: xs) : ecdfQ s = x :: x :: xs := by
  rw [ecdfQ, h, dupHead]

/-! ### counting sample points -/

theorem countLE_perm {l l' : List ℚ} (h : l.Perm l') (t : ℚ) : countLE l t = countLE l' t :=
  h.countP_eq _

theorem countLE_cons (x : ℚ) (xs : List ℚ) (t : ℚ) :
    countLE (x :: xs) t = countLE xs t + if x ≤ t then 1 else 0 := by
  simp only [countLE, List.countP_cons, decide_eq_true_eq]

theorem countLE_pos_iff_head {x : ℚ} {xs : List ℚ} (h : (x :: xs).Pairwise (· ≤ ·)) (t : ℚ) :
    0 < countLE (x :: xs) t ↔ x ≤ t := by
  simp only [countLE, List.countP_pos_iff, decide_eq_true_eq]
  constructor
  · rintro ⟨y, hy, hyt⟩
    rcases List.mem_cons.mp hy with rfl | hy
    · exact hyt
    · exact le_trans ((List.pairwise_cons.mp h).1 y hy) hyt
  · intro hx; exact ⟨x, List.mem_cons_self, hx⟩

theorem countLE_anti {a b : List ℚ} (h : List.Forall₂ (· ≤ ·) a b) (t : ℚ) : countLE b t ≤ countLE a t := by
  induction h with
  | nil => exact le_refl _
  | @cons x y _ _ hxy _ ih =>
    rw [countLE_cons, countLE_cons]
    refine Nat.add_le_add ih ?_
    split_ifs with hy hx
    · exact le_refl _
    · exact absurd (le_trans hxy hy) hx
    · exact Nat.zero_le _
    · exact le_refl _

/-! ### the step function drawn by a bundle on the ecdf grid -/

theorem evalStep_pFrom (n : ℕ) (l : List ℚ) (hl : l.Pairwise (· ≤ ·)) (k : ℕ) (t : ℚ) :
    evalStep l (pFrom n (k + 1) l.length) ((k : ℚ) / n) t = ((k + countLE l t : ℕ) : ℚ) / n := by
  induction l generalizing k with
  | nil => rfl
  | cons x xs ih =>
    simp only [List.length_cons, pFrom, evalStep]
    by_cases hx : x ≤ t
    · rw [if_pos hx, ih (List.pairwise_cons.mp hl).2 (k + 1), countLE_cons, if_pos hx,
        Nat.add_right_comm, Nat.add_assoc]
    · rw [if_neg hx, Nat.eq_zero_of_not_pos (mt (countLE_pos_iff_head hl t).mp hx), Nat.add_zero]

theorem evalStep_map (f : ℚ → ℚ) (q ps : List ℚ) (acc t : ℚ) :
    evalStep q (ps.map f) (f acc) t = f (evalStep q ps acc t) := by
  induction q generalizing ps acc with
  | nil => cases ps <;> rfl
  | cons x xs ih =>
    cases ps with
    | nil => rfl
    | cons p ps =>
      simp only [List.map_cons, evalStep]
      split_ifs
      · exact ih ps p
      · rfl

theorem eval_mapped (f : ℚ → ℚ) (s : List ℚ) (t : ℚ) :
    (Bundle.mk (ecdfQ s) ((ecdfP s.length).map f)).eval t
      = if 0 < countLE s t then f ((countLE s t : ℚ) / s.length) else 0 := by
  rw [← countLE_perm (sortR_perm s) t, ← sortR_length s]
  cases hs : sortR s with
  | nil => rw [ecdfQ, hs]; rfl
  | cons x xs =>
    have hsrt : (x :: xs).Pairwise (· ≤ ·) := hs ▸ sortR_sorted s
    have key := evalStep_pFrom (x :: xs).length (x :: xs) hsrt 0 t
    rw [Nat.cast_zero, zero_div, Nat.zero_add (countLE _ t)] at key
    rw [ecdfQ_of_sortR hs, ecdfP_cons, List.map_cons, Bundle.eval, evalStep]
    simp only [countLE_pos_iff_head hsrt]
    split_ifs with hx
    · rw [evalStep_map, key]
    · rfl

theorem eval_ecdf (s : List ℚ) (t : ℚ) : (ecdf s).eval t = (countLE s t : ℚ) / s.length := by
  have h := eval_mapped id s t
  rw [List.map_id] at h
  rw [ecdf, h]
  split_ifs with hc
  · rfl
  · rw [Nat.eq_zero_of_not_pos hc, Nat.cast_zero, zero_div]

theorem eval_mapped_anti {f : ℚ → ℚ} (hf : ∀ a b, a ≤ b → f a ≤ f b) (hf0 : ∀ a, 0 ≤ f a) {a b : List ℚ}
    (h : List.Forall₂ (· ≤ ·) a b) (t : ℚ) :
    (Bundle.mk (ecdfQ b) ((ecdfP b.length).map f)).eval t ≤ (Bundle.mk (ecdfQ a) ((ecdfP a.length).map f)).eval t := by
  have hc := countLE_anti h t
  rw [eval_mapped, eval_mapped, h.length_eq]
  by_cases hb : 0 < countLE b t
  · rw [if_pos hb, if_pos (lt_of_lt_of_le hb hc)]
    exact hf _ _ (div_le_div_of_nonneg_right (Nat.cast_le.mpr hc) (Nat.cast_nonneg _))
  · rw [if_neg hb]
    split_ifs
    · exact hf0 _
    · exact le_refl _

/-! ### the band -/

theorem forall₂_map_self {R : ℚ → ℚ → Prop} {f : ℚ → ℚ} {p : List ℚ} (h : ∀ x ∈ p, R (f x) x) :
    List.Forall₂ R (p.map f) p := by
  rw [List.forall₂_map_left_iff, List.forall₂_same]; exact h

theorem upper_eq_map (D : ℚ) (p : List ℚ) : upper D p = p.map (fun x => clip (x + D)) := by
  simp [upper, shiftUp, List.map_map, Function.comp_def]
theorem lower_eq_map (D : ℚ) (p : List ℚ) : lower D p = p.map (fun x => clip (x - D)) := by
  simp [lower, shiftDn, List.map_map, Function.comp_def]

theorem iband_fst (lo hi : List ℚ) (D : ℚ) : (iband lo hi D).1 = (band lo D).1 := rfl
theorem iband_snd (lo hi : List ℚ) (D : ℚ) : (iband lo hi D).2 = (band hi D).2 := rfl

theorem eval_upper (s : List ℚ) (D t : ℚ) :
    (band s D).1.eval t = if 0 < countLE s t then clip ((countLE s t : ℚ) / s.length + D) else 0 := by
  rw [band, upper_eq_map]; exact eval_mapped _ s t

theorem eval_lower (s : List ℚ) (D t : ℚ) :
    (band s D).2.eval t = if 0 < countLE s t then clip ((countLE s t : ℚ) / s.length - D) else 0 := by
  rw [band, lower_eq_map]; exact eval_mapped _ s t

/-! ### `'next'` lookup -/

theorem nextLookup_mem {p q : List ℚ} {x b : ℚ} (h : nextLookup p q x = some b) : b ∈ q := by
  fun_induction nextLookup p q x with
  | case1 => exact Option.some.inj h ▸ List.mem_cons_self
  | case2 _ _ _ _ _ _ ih => exact List.mem_cons_of_mem _ (ih h)
  | case3 => cases h

theorem nextLookup_dom {p1 p2 : List ℚ} (h : List.Forall₂ (fun a b => b ≤ a) p1 p2) {q : List ℚ}
    (hq : q.Pairwise (· ≤ ·)) {x b : ℚ} (hb : nextLookup p2 q x = some b) :
    ∃ a, nextLookup p1 q x = some a ∧ a ≤ b := by
  induction h generalizing q with
  | nil => simp [nextLookup] at hb
  | @cons a0 b0 l1 l2 hab _ ih =>
    cases q with
    | nil => simp [nextLookup] at hb
    | cons q0 qs =>
      rw [List.pairwise_cons] at hq
      simp only [nextLookup] at hb ⊢
      by_cases hx1 : x ≤ a0
      · rw [if_pos hx1]
        refine ⟨q0, rfl, ?_⟩
        split_ifs at hb
        · exact (Option.some.inj hb).le
        · exact hq.1 b (nextLookup_mem hb)
      · rw [if_neg hx1]
        rw [if_neg (fun hx2 => hx1 (le_trans hx2 hab))] at hb
        exact ih hq.2 hb

theorem nextLookup_total {p q : List ℚ} (hlen : q.length = p.length) {pl x : ℚ}
    (hl : p.getLast? = some pl) (hx : x ≤ pl) : ∃ e, nextLookup p q x = some e := by
  induction p generalizing q with
  | nil => simp at hl
  | cons p0 ps ih =>
    cases q with
    | nil => simp at hlen
    | cons q0 qs =>
      simp only [nextLookup]
      by_cases h : x ≤ p0
      · exact ⟨q0, if_pos h⟩
      · rw [if_neg h]
        cases ps with
        | nil =>
          rw [List.getLast?_singleton] at hl
          exact absurd (Option.some.inj hl ▸ hx) h
        | cons p1 pt =>
          rw [List.getLast?_cons_cons] at hl
          exact ih (Nat.succ.inj hlen) hl

theorem nextLookup_append {p q : List ℚ} {x e : ℚ} (h : nextLookup p q x = some e) (p' q' : List ℚ) :
    nextLookup (p ++ p') (q ++ q') x = some e := by
  fun_induction nextLookup p q x with
  | case1 _ _ _ _ _ hx =>
    rw [List.cons_append, List.cons_append, nextLookup, if_pos hx]
    exact h
  | case2 _ _ _ _ _ hx ih =>
    rw [List.cons_append, List.cons_append, nextLookup, if_neg hx]
    exact ih h
  | case3 => cases h

theorem le_getLast_of_sorted {l : List ℚ} (h : l.Pairwise (· ≤ ·)) {ql : ℚ} (hl : l.getLast? = some ql) :
    ∀ y ∈ l, y ≤ ql := by
  intro y hy
  obtain ⟨l', rfl⟩ := List.getLast?_eq_some_iff.mp hl
  rcases List.mem_append.mp hy with hy | hy
  · exact (List.pairwise_append.mp h).2.2 y hy ql List.mem_cons_self
  · exact (List.mem_singleton.mp hy).le

/-- dual form, with the closing point `(1, q_last)` that `extend_ecdf` appends: a pointwise smaller cdf, closed by
that point, has the larger 'next' quantile -/
theorem nextLookup_dom_append {pL pE : List ℚ} (h : List.Forall₂ (fun a b => a ≤ b) pL pE) {q : List ℚ}
    (hq : q.Pairwise (· ≤ ·)) (hlen : q.length = pL.length) {ql : ℚ} (hql : ∀ y ∈ q, y ≤ ql)
    {x e : ℚ} (hx : x ≤ 1) (he : nextLookup pE q x = some e) :
    ∃ b, nextLookup (pL ++ [1]) (q ++ [ql]) x = some b ∧ e ≤ b := by
  obtain ⟨b, hb⟩ := nextLookup_total (p := pL ++ [1]) (q := q ++ [ql]) (by simp [hlen]) (by simp) hx
  have hdom : List.Forall₂ (fun a b => b ≤ a) (pE ++ [1]) (pL ++ [1]) :=
    List.rel_append h.flip (List.Forall₂.cons (le_refl _) List.Forall₂.nil)
  have hsrt : (q ++ [ql]).Pairwise (· ≤ ·) :=
    List.pairwise_append.mpr ⟨hq, List.pairwise_singleton _ _, fun y hy z hz => List.mem_singleton.mp hz ▸ hql y hy⟩
  obtain ⟨a, ha, hab⟩ := nextLookup_dom hdom hsrt hb
  rw [nextLookup_append he] at ha
  exact ⟨b, hb, Option.some.inj ha ▸ hab⟩

/-! ### `extend_ecdf` and the lookup in the extended bundle -/

theorem extend_prepend {q0 p0 : ℚ} {Qt Pt : List ℚ} (hp0 : p0 ≠ 0) (hlast : (p0 :: Pt).getLast? = some 1) :
    extend ⟨q0 :: Qt, p0 :: Pt⟩ = ⟨q0 :: q0 :: Qt, 0 :: p0 :: Pt⟩ := by
  obtain ⟨ql, hql⟩ : ∃ ql, (q0 :: q0 :: Qt).getLast? = some ql := ⟨_, List.getLast?_cons⟩
  simp only [extend, hp0, ne_eq, not_false_eq_true, if_true, List.getLast?_cons_cons, hlast, hql,
    not_true_eq_false, if_false]

theorem extend_append {q0 ql pl : ℚ} {Qt Pt : List ℚ} (hql : (q0 :: Qt).getLast? = some ql)
    (hpl : ((0 : ℚ) :: Pt).getLast? = some pl) (h1 : pl ≠ 1) :
    extend ⟨q0 :: Qt, 0 :: Pt⟩ = ⟨(q0 :: Qt) ++ [ql], (0 :: Pt) ++ [1]⟩ := by
  simp only [extend, ne_eq, not_true_eq_false, if_false, hql, hpl, h1, not_false_eq_true, if_true]

theorem extend_id {q0 ql : ℚ} {Qt Pt : List ℚ} (hql : (q0 :: Qt).getLast? = some ql)
    (hpl : ((0 : ℚ) :: Pt).getLast? = some 1) :
    extend ⟨q0 :: Qt, 0 :: Pt⟩ = ⟨q0 :: Qt, 0 :: Pt⟩ := by
  simp only [extend, ne_eq, not_true_eq_false, if_false, hql, hpl]

theorem interpNext_eq {Q P : List ℚ} {p0 pl qh ql x : ℚ} (hh : P.head? = some p0) (hl : P.getLast? = some pl)
    (hqh : Q.head? = some qh) (hql : Q.getLast? = some ql)
    (h0 : p0 ≤ x) (h1 : x ≤ pl) : interpNext ⟨Q, P⟩ x = nextLookup P Q x := by
  simp only [interpNext, hh, hl, hqh, hql, not_lt.mpr h0, not_lt.mpr h1, if_false]

section
variable {q0 : ℚ} {Qt Pt : List ℚ} {x : ℚ}

theorem interpNext_extend_id (hlast : ((0 : ℚ) :: Pt).getLast? = some 1) (hx0 : 0 < x) (hx1 : x ≤ 1) :
    interpNext (extend ⟨q0 :: Qt, 0 :: Pt⟩) x = nextLookup (0 :: Pt) (q0 :: Qt) x := by
  obtain ⟨ql, hql⟩ : ∃ ql, (q0 :: Qt).getLast? = some ql := ⟨_, List.getLast?_cons⟩
  rw [extend_id hql hlast]
  exact interpNext_eq rfl hlast rfl hql hx0.le hx1

/-- a bundle that starts above probability 0 gets the point `(q0, 0)` in front, which no level `x > 0` reads -/
theorem interpNext_extend_prepend {p0 : ℚ} (hp0 : p0 ≠ 0) (hlast : (p0 :: Pt).getLast? = some 1)
    (hx0 : 0 < x) (hx1 : x ≤ 1) :
    interpNext (extend ⟨q0 :: Qt, p0 :: Pt⟩) x = nextLookup (p0 :: Pt) (q0 :: Qt) x := by
  obtain ⟨ql, hql⟩ : ∃ ql, (q0 :: q0 :: Qt).getLast? = some ql := ⟨_, List.getLast?_cons⟩
  rw [extend_prepend hp0 hlast,
    interpNext_eq rfl ((List.getLast?_cons_cons).trans hlast) rfl hql hx0.le hx1]
  exact if_neg (not_le.mpr hx0)

theorem interpNext_extend_append {ql pl : ℚ} (hql : (q0 :: Qt).getLast? = some ql)
    (hpl : ((0 : ℚ) :: Pt).getLast? = some pl) (h1 : pl ≠ 1) (hx0 : 0 < x) (hx1 : x ≤ 1) :
    interpNext (extend ⟨q0 :: Qt, 0 :: Pt⟩) x = nextLookup ((0 :: Pt) ++ [1]) ((q0 :: Qt) ++ [ql]) x := by
  rw [extend_append hql hpl h1]
  exact interpNext_eq rfl List.getLast?_concat rfl List.getLast?_concat hx0.le hx1

/-- core of C17's p-box statement on an abstract grid `Q` with cdf `pE` from 0 to 1: the upper bound starts above 0
and still ends at 1, the lower bound still starts at 0 and ends below 1 -/
theorem pbox_core (hlen : (q0 :: Qt).length = ((0 : ℚ) :: Pt).length) (hQs : (q0 :: Qt).Pairwise (· ≤ ·))
    (hlast : ((0 : ℚ) :: Pt).getLast? = some 1) (hunit : ∀ p ∈ (0 : ℚ) :: Pt, 0 ≤ p ∧ p ≤ 1)
    {D : ℚ} (hD : 0 < D) (hx0 : 0 < x) (hx1 : x ≤ 1) :
    ∃ a e b, interpNext (extend ⟨q0 :: Qt, upper D (0 :: Pt)⟩) x = some a ∧
      interpNext (extend ⟨q0 :: Qt, 0 :: Pt⟩) x = some e ∧
      interpNext (extend ⟨q0 :: Qt, lower D (0 :: Pt)⟩) x = some b ∧ a ≤ e ∧ e ≤ b := by
  obtain ⟨ql, hql⟩ : ∃ ql, (q0 :: Qt).getLast? = some ql := ⟨_, List.getLast?_cons⟩
  obtain ⟨e, he⟩ := nextLookup_total hlen hlast hx1
  have hU0 : clip (0 + D) ≠ 0 := (lt_clip_add zero_lt_one hD).ne'
  have hU1 : clip (1 + D) = 1 := le_antisymm (clip_le_one _) (le_clip_add zero_le_one (le_refl 1) hD.le)
  have hUl : (upper D (0 :: Pt)).getLast? = some 1 := by
    rw [upper_eq_map, List.getLast?_map, hlast, Option.map_some, hU1]
  have hUdom : List.Forall₂ (fun a b => b ≤ a) (upper D (0 :: Pt)) (0 :: Pt) := by
    rw [upper_eq_map]
    exact forall₂_map_self fun p hp => le_clip_add (hunit p hp).1 (hunit p hp).2 hD.le
  obtain ⟨a, ha, hae⟩ := nextLookup_dom hUdom hQs he
  have hL0 : clip (0 - D) = 0 := le_antisymm (clip_sub_le (le_refl 0) zero_le_one hD.le) (clip_nonneg _)
  have hL1 : clip (1 - D) ≠ 1 := (clip_sub_lt zero_lt_one hD).ne
  have hLl : (lower D (0 :: Pt)).getLast? = some (clip (1 - D)) := by
    rw [lower_eq_map, List.getLast?_map, hlast, Option.map_some]
  have hLdom : List.Forall₂ (fun a b => a ≤ b) (lower D (0 :: Pt)) (0 :: Pt) := by
    rw [lower_eq_map]
    exact forall₂_map_self fun p hp => clip_sub_le (hunit p hp).1 (hunit p hp).2 hD.le
  obtain ⟨b, hb, heb⟩ := nextLookup_dom_append hLdom hQs (hlen.trans hLdom.length_eq.symm)
    (le_getLast_of_sorted hQs hql) hx1 he
  refine ⟨a, e, b, ?_, ?_, ?_, hae, heb⟩
  · rw [upper_eq_map, List.map_cons] at hUl ha ⊢
    rw [interpNext_extend_prepend hU0 hUl hx0 hx1, ha]
  · rw [interpNext_extend_id hlast hx0 hx1, he]
  · rw [lower_eq_map, List.map_cons, hL0] at hLl hb ⊢
    rw [interpNext_extend_append hql hLl hL1 hx0 hx1, hb]

end

/-! ### bridge to P8 (`Grid.nextQ`, `Grid.massLE`, `Grid.nextQ_is_geninv` of `Lemmas/Grid`): the ecdf bundle is the
weighted sample with weights `1/n` -/

def unifW (n : ℕ) (l : List ℚ) : List (ℚ × ℚ) := l.map (fun q => (q, 1 / (n : ℚ)))

theorem nextLookup_pFrom_eq_nextQ (n : ℕ) (l : List ℚ) (k : ℕ) (x : ℚ) :
    nextLookup (pFrom n (k + 1) l.length) l x = Grid.nextQ (unifW n l) ((k : ℚ) / n) x := by
  induction l generalizing k with
  | nil => rfl
  | cons q qs ih =>
    have e : ((k : ℚ) / n) + 1 / n = ((k + 1 : ℕ) : ℚ) / n := by rw [Nat.cast_succ, add_div]
    simp only [List.length_cons, pFrom, nextLookup, unifW, List.map_cons, Grid.nextQ]
    rw [e]
    split_ifs
    · rfl
    · exact ih (k + 1)

theorem massLE_unifW (n : ℕ) (l : List ℚ) (t : ℚ) : Grid.massLE (unifW n l) t = (countLE l t : ℚ) / n := by
  induction l with
  | nil => simp [Grid.massLE, unifW, countLE]
  | cons q qs ih =>
    rw [countLE_cons, unifW, List.map_cons, Grid.massLE, ← unifW, ih, Nat.cast_add, add_div, add_comm]
    split_ifs
    · rw [Nat.cast_one]
    · rw [Nat.cast_zero, zero_div]

theorem interpNext_ecdf_eq_nextQ {s : List ℚ} (hs : s ≠ []) {x : ℚ} (hx0 : 0 < x) (hx1 : x ≤ 1) :
    interpNext (extend (ecdf s)) x = Grid.nextQ (unifW s.length (sortR s)) 0 x := by
  obtain ⟨q0, Qt, hQ⟩ := List.exists_cons_of_ne_nil (sortR_ne_nil hs)
  have hlast := ecdfP_getLast? (List.length_pos_iff.mpr hs)
  have hb := nextLookup_pFrom_eq_nextQ s.length (sortR s) 0 x
  rw [sortR_length, Nat.cast_zero, zero_div] at hb
  rw [ecdfP_cons] at hlast
  rw [ecdf, ecdfQ_of_sortR hQ, ecdfP_cons, interpNext_extend_id hlast hx0 hx1, nextLookup,
    if_neg (not_le.mpr hx0), ← hQ, hb]

theorem eval_ecdf_eq_massLE (s : List ℚ) (t : ℚ) :
    (ecdf s).eval t = Grid.massLE (unifW s.length (sortR s)) t := by
  rw [eval_ecdf, massLE_unifW, countLE_perm (sortR_perm s) t]

end Pun.KS
