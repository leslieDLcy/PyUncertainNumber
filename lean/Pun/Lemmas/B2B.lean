import Pun.Model.B2B
import Mathlib.Tactic.Linarith
import Mathlib.Tactic.Ring
import Mathlib.Tactic.FieldSimp
import Mathlib.Algebra.Order.Field.Rat
import Mathlib.Data.List.Range
import Mathlib.Data.List.Nodup
/-!
# Lists, cartesian products, hulls and the one-dimensional tiling (used by C13 and C14)

Nothing here mentions expressions: `mapM` in `Except`, coordinatewise relations (`List.Forall₂`), `prodL`,
the least and greatest element of a list, `knot` and `tiles1`.
-/
namespace Pun.B2B
open Pun Pun.Arith Pun.Expr List

/-! ## `Except`, `mapM` -/

theorem bind_ok {α β : Type} {x : Except Err α} {f : α → Except Err β} {b : β} :
    x >>= f = .ok b ↔ ∃ a, x = .ok a ∧ f a = .ok b := by
  cases x with
  | error e => exact ⟨fun h => (nomatch h), fun ⟨_, h, _⟩ => (nomatch h)⟩
  | ok a => exact ⟨fun h => ⟨a, rfl, h⟩, fun ⟨_, h, hf⟩ => by cases h; exact hf⟩

theorem ok_unique {α : Type} {x : Except Err α} {a b : α} (h1 : x = .ok a) (h2 : x = .ok b) : a = b :=
  Except.ok.inj (h1.symm.trans h2)

theorem mapM_ok_iff {α β : Type} (f : α → Except Err β) (l : List α) (rs : List β) :
    l.mapM f = .ok rs ↔ Forall₂ (fun a r => f a = .ok r) l rs := by
  induction l generalizing rs with
  | nil => simp only [mapM_nil, pure, Except.pure, Except.ok.injEq, forall₂_nil_left_iff, eq_comm]
  | cons a l ih =>
    rw [mapM_cons, bind_ok, forall₂_cons_left_iff]
    constructor
    · rintro ⟨b, hb, h⟩
      obtain ⟨bs, hbs, h⟩ := bind_ok.mp h
      exact ⟨b, bs, hb, (ih bs).mp hbs, (Except.ok.inj h).symm⟩
    · rintro ⟨b, bs, hb, hbs, rfl⟩
      exact ⟨b, hb, bind_ok.mpr ⟨bs, (ih bs).mpr hbs, rfl⟩⟩

theorem mapM_ok {α β : Type} {f : α → Except Err β} {l : List α} {rs : List β} (h : l.mapM f = .ok rs) :
    Forall₂ (fun a r => f a = .ok r) l rs :=
  (mapM_ok_iff f l rs).mp h

/-! ## coordinatewise relations -/

variable {α β γ : Type}

theorem forall₂_left {R : α → β → Prop} {l : List α} {rs : List β} (h : Forall₂ R l rs) {a : α} (ha : a ∈ l) :
    ∃ r ∈ rs, R a r := by
  induction h with
  | nil => cases ha
  | cons hab _ ih =>
    rcases mem_cons.mp ha with rfl | ha
    · exact ⟨_, mem_cons_self, hab⟩
    · obtain ⟨r, hr, h⟩ := ih ha
      exact ⟨r, mem_cons_of_mem _ hr, h⟩

theorem forall₂_right {R : α → β → Prop} {l : List α} {rs : List β} (h : Forall₂ R l rs) {r : β} (hr : r ∈ rs) :
    ∃ a ∈ l, R a r :=
  forall₂_left (R := fun r a => R a r) h.flip hr

theorem forall₂_getElem? {R : α → β → Prop} {l : List α} {l' : List β} (h : Forall₂ R l l') {i : Nat} {b : β}
    (hb : l'[i]? = some b) : ∃ a, l[i]? = some a ∧ R a b := by
  induction h generalizing i with
  | nil => cases hb
  | cons hab _ ih =>
    cases i with
    | zero => cases hb; exact ⟨_, rfl, hab⟩
    | succ j => exact ih hb

theorem forall₂_imp_mem {R S : α → β → Prop} {l : List α} {l' : List β} (h : Forall₂ R l l')
    (step : ∀ a b, a ∈ l → b ∈ l' → R a b → S a b) : Forall₂ S l l' := by
  induction h with
  | nil => exact .nil
  | cons hab _ ih =>
    exact .cons (step _ _ mem_cons_self mem_cons_self hab)
      (ih fun a b ha hb => step a b (mem_cons_of_mem _ ha) (mem_cons_of_mem _ hb))

theorem forall₂_choose {R : α → β → Prop} {l : List α} (h : ∀ a ∈ l, ∃ b, R a b) : ∃ l', Forall₂ R l l' := by
  induction l with
  | nil => exact ⟨[], .nil⟩
  | cons a l ih =>
    obtain ⟨b, hb⟩ := h a mem_cons_self
    obtain ⟨l', hl'⟩ := ih fun a ha => h a (mem_cons_of_mem _ ha)
    exact ⟨b :: l', .cons hb hl'⟩

theorem map_eq_map_iff_forall₂ {f : α → γ} {g : β → γ} {l : List α} {l' : List β} :
    l.map f = l'.map g ↔ Forall₂ (fun a b => f a = g b) l l' := by
  have : l.map f = l'.map g ↔ Forall₂ Eq (l.map f) (l'.map g) := by rw [forall₂_eq_eq_eq]
  rw [this, forall₂_map_left_iff, forall₂_map_right_iff]

theorem forall₂_replicate_iff (g : List α) (d : Nat) (t : List α) :
    Forall₂ (fun a l => a ∈ l) t (replicate d g) ↔ t.length = d ∧ ∀ a ∈ t, a ∈ g := by
  induction d generalizing t with
  | zero =>
    rw [replicate_zero, forall₂_nil_right_iff, length_eq_zero_iff]
    exact ⟨by rintro rfl; exact ⟨rfl, fun _ h => (nomatch h)⟩, fun h => h.1⟩
  | succ k ih =>
    rw [replicate_succ, forall₂_cons_right_iff]
    constructor
    · rintro ⟨a, t', ha, ht', rfl⟩
      obtain ⟨h1, h2⟩ := (ih t').mp ht'
      exact ⟨by rw [length_cons, h1], forall_mem_cons.mpr ⟨ha, h2⟩⟩
    · rintro ⟨h1, h2⟩
      cases t with
      | nil => cases h1
      | cons a t' =>
        obtain ⟨ha, h2⟩ := forall_mem_cons.mp h2
        exact ⟨a, t', ha, (ih t').mpr ⟨Nat.succ.inj h1, h2⟩, rfl⟩

/-! ## cartesian products -/

theorem mem_prodL (ls : List (List α)) (t : List α) : t ∈ prodL ls ↔ Forall₂ (fun a l => a ∈ l) t ls := by
  induction ls generalizing t with
  | nil => simp [prodL]
  | cons l ls ih =>
    simp only [prodL, mem_flatMap, mem_map, forall₂_cons_right_iff]
    constructor
    · rintro ⟨a, ha, t', ht', rfl⟩
      exact ⟨a, t', ha, (ih t').mp ht', rfl⟩
    · rintro ⟨a, t', ha, ht', rfl⟩
      exact ⟨a, ha, t', (ih t').mpr ht', rfl⟩

theorem mem_prodL_map (f : β → List α) (bs : List β) (t : List α) :
    t ∈ prodL (bs.map f) ↔ Forall₂ (fun a b => a ∈ f b) t bs := by
  rw [mem_prodL, forall₂_map_right_iff]

theorem length_prodL_replicate (g : List α) (d : Nat) : (prodL (replicate d g)).length = g.length ^ d := by
  induction d with
  | zero => rfl
  | succ k ih =>
    rw [replicate_succ, prodL, length_flatMap]
    simp only [length_map, ih, map_const', sum_replicate_nat, pow_succ, Nat.mul_comm]

def SepAt (R : α → α → Prop) (s t : List α) : Prop := ∃ (k : Nat) (a b : α), s[k]? = some a ∧ t[k]? = some b ∧ R a b

theorem pairwise_prodL (R : α → α → Prop) (ls : List (List α)) (h : ∀ l ∈ ls, l.Pairwise R) :
    (prodL ls).Pairwise (SepAt R) := by
  induction ls with
  | nil => simp [prodL]
  | cons l ls ih =>
    obtain ⟨hl, hls⟩ := forall_mem_cons.mp h
    rw [prodL, pairwise_flatMap]
    refine ⟨fun a _ => ?_, hl.imp ?_⟩
    · rw [pairwise_map]
      refine (ih hls).imp ?_
      rintro s t ⟨k, x, y, hx, hy, hr⟩
      exact ⟨k + 1, x, y, hx, hy, hr⟩
    · intro a b hab s hs t ht
      obtain ⟨s', _, rfl⟩ := mem_map.mp hs
      obtain ⟨t', _, rfl⟩ := mem_map.mp ht
      exact ⟨0, a, b, rfl, rfl, hab⟩

theorem nodup_prodL (ls : List (List α)) (h : ∀ l ∈ ls, l.Nodup) : (prodL ls).Nodup :=
  (pairwise_prodL (· ≠ ·) ls h).imp fun ⟨_, _, _, ha, hb, hab⟩ e => hab (Option.some.inj (ha.symm.trans (e ▸ hb)))

/-! ## least and greatest element, hull -/

theorem minL1_spec {l : List Rat} {m : Rat} (h : minL1 l = some m) : (∀ y ∈ l, m ≤ y) ∧ m ∈ l := by
  have e : minL1 l = l.min? := by cases l <;> rfl
  exact (min?_eq_some_iff.mp (e ▸ h)).symm

theorem maxL1_spec {l : List Rat} {m : Rat} (h : maxL1 l = some m) : (∀ y ∈ l, y ≤ m) ∧ m ∈ l := by
  have e : maxL1 l = l.max? := by cases l <;> rfl
  exact (max?_eq_some_iff.mp (e ▸ h)).symm

theorem mk_ok {l h : Rat} {V : Val} (hm : mk l h = .ok V) : V = .ivl l h ∧ l ≤ h := by
  unfold mk at hm
  split at hm
  · cases hm; exact ⟨rfl, by assumption⟩
  · cases hm

theorem mk_of_le {l h : Rat} (hh : l ≤ h) : mk l h = .ok (.ivl l h) := if_pos hh

/-- `Interval(min of the lower ends, max of the upper ends)`: the last step of `reconstitute` and of `endpoints` -/
def hullOf (los his : List Rat) : Except Err Val :=
  match minL1 los, maxL1 his with
  | some l, some h => mk l h
  | _, _ => .error .Value

theorem reconstitute_eq (rs : List Val) : reconstitute rs = hullOf (rs.map Val.lo) (rs.map Val.hi) := rfl

theorem hullOf_ok {los his : List Rat} {V : Val} (h : hullOf los his = .ok V) :
    ((∀ y ∈ los, V.lo ≤ y) ∧ V.lo ∈ los) ∧ ((∀ y ∈ his, y ≤ V.hi) ∧ V.hi ∈ his) := by
  unfold hullOf at h
  split at h
  · rename_i l hh hl hh'
    obtain ⟨rfl, _⟩ := mk_ok h
    exact ⟨minL1_spec hl, maxL1_spec hh'⟩
  · cases h

theorem hullOf_total {los his : List Rat} {a b : Rat} (ha : a ∈ los) (hb : b ∈ his) (hab : a ≤ b) :
    ∃ V, hullOf los his = .ok V := by
  cases los with
  | nil => cases ha
  | cons x xs =>
    cases his with
    | nil => cases hb
    | cons y ys =>
      have hm := (minL1_spec (l := x :: xs) rfl).1 a ha
      have hM := (maxL1_spec (l := y :: ys) rfl).1 b hb
      exact ⟨_, mk_of_le (le_trans hm (le_trans hab hM))⟩

/-! ## knots and the tiles of one side -/

theorem knot_zero (lo hi : Rat) (n : Nat) : knot lo hi n 0 = lo := by simp [knot]

theorem knot_last (lo hi : Rat) (n : Nat) (hn : n ≠ 0) : knot lo hi n n = hi := by
  have : (n : Rat) ≠ 0 := Nat.cast_ne_zero.mpr hn
  unfold knot; field_simp; ring

theorem knot_mono (lo hi : Rat) (n : Nat) (h : lo ≤ hi) (i j : Nat) (hij : i ≤ j) :
    knot lo hi n i ≤ knot lo hi n j := by
  have hw : 0 ≤ (hi - lo) / (n : Rat) := div_nonneg (sub_nonneg.mpr h) (Nat.cast_nonneg n)
  exact add_le_add (le_refl lo) (mul_le_mul_of_nonneg_right (Nat.cast_le.mpr hij) hw)

theorem knot_cover (lo hi x : Rat) (n : Nat) (m : Nat) (hm : 1 ≤ m) (h1 : lo ≤ x) (h2 : x ≤ knot lo hi n m) :
    ∃ i, i < m ∧ knot lo hi n i ≤ x ∧ x ≤ knot lo hi n (i + 1) := by
  induction m with
  | zero => omega
  | succ k ih =>
    rcases Nat.eq_zero_or_pos k with hk | hk
    · subst hk; exact ⟨0, by omega, by rw [knot_zero]; exact h1, h2⟩
    · rcases le_total x (knot lo hi n k) with hx | hx
      · obtain ⟨i, hi', h3, h4⟩ := ih hk hx
        exact ⟨i, by omega, h3, h4⟩
      · exact ⟨k, by omega, hx, h2⟩

theorem knot_refine (lo hi : Rat) (n m i : Nat) (hn : n ≠ 0) (hm : m ≠ 0) :
    knot lo hi (n * m) (i * m) = knot lo hi n i := by
  have h1 : (n : Rat) ≠ 0 := Nat.cast_ne_zero.mpr hn
  have h2 : (m : Rat) ≠ 0 := Nat.cast_ne_zero.mpr hm
  unfold knot
  push_cast
  field_simp

theorem tiles1_of_le_one {n : Nat} (p : Rat × Rat) (hn : n ≤ 1) : tiles1 p n = [p] := if_pos hn

theorem tiles1_of_one_lt {n : Nat} (p : Rat × Rat) (hn : 1 < n) :
    tiles1 p n = (range n).map (fun i => (knot p.1 p.2 n i, knot p.1 p.2 n (i + 1))) := if_neg (by omega)

theorem mem_tiles1 (p q : Rat × Rat) (n : Nat) :
    q ∈ tiles1 p n ↔ ∃ i < max n 1, q = (knot p.1 p.2 (max n 1) i, knot p.1 p.2 (max n 1) (i + 1)) := by
  rcases Nat.lt_or_ge 1 n with hn | hn
  · rw [tiles1_of_one_lt p hn, max_eq_left hn.le]
    simp only [mem_map, mem_range, eq_comm]
  · rw [tiles1_of_le_one p hn, max_eq_right hn, mem_singleton]
    have e : (knot p.1 p.2 1 0, knot p.1 p.2 1 (0 + 1)) = p := by
      rw [knot_zero, Nat.zero_add, knot_last _ _ _ one_ne_zero]
    constructor
    · rintro rfl; exact ⟨0, Nat.one_pos, e.symm⟩
    · rintro ⟨i, hi, rfl⟩
      obtain rfl : i = 0 := by omega
      exact e

theorem tiles1_cover (p : Rat × Rat) (n : Nat) (x : Rat) (h1 : p.1 ≤ x) (h2 : x ≤ p.2) :
    ∃ t ∈ tiles1 p n, t.1 ≤ x ∧ x ≤ t.2 := by
  have hN : max n 1 ≠ 0 := by omega
  obtain ⟨i, hi, h3, h4⟩ := knot_cover p.1 p.2 x _ (max n 1) (by omega) h1 (by rw [knot_last _ _ _ hN]; exact h2)
  exact ⟨_, (mem_tiles1 p _ n).mpr ⟨i, hi, rfl⟩, h3, h4⟩

theorem tiles1_within (p : Rat × Rat) (n : Nat) (hp : p.1 ≤ p.2) (t : Rat × Rat) (ht : t ∈ tiles1 p n) :
    p.1 ≤ t.1 ∧ t.1 ≤ t.2 ∧ t.2 ≤ p.2 := by
  obtain ⟨i, hi, rfl⟩ := (mem_tiles1 p t n).mp ht
  have h0 := knot_mono p.1 p.2 (max n 1) hp 0 i (by omega)
  have hN := knot_mono p.1 p.2 (max n 1) hp (i + 1) (max n 1) (by omega)
  rw [knot_zero] at h0
  rw [knot_last _ _ _ (by omega)] at hN
  exact ⟨h0, knot_mono _ _ _ hp _ _ (by omega), hN⟩

theorem tiles1_ends (p : Rat × Rat) (n : Nat) : (∃ q ∈ tiles1 p n, q.1 = p.1) ∧ (∃ q ∈ tiles1 p n, q.2 = p.2) := by
  refine ⟨⟨_, (mem_tiles1 p _ n).mpr ⟨0, by omega, rfl⟩, knot_zero _ _ _⟩,
    ⟨_, (mem_tiles1 p _ n).mpr ⟨max n 1 - 1, by omega, rfl⟩, ?_⟩⟩
  have : max n 1 - 1 + 1 = max n 1 := by omega
  simp only [this]
  exact knot_last _ _ _ (by omega)

theorem tiles1_pairwise (p : Rat × Rat) (n : Nat) (hp : p.1 ≤ p.2) :
    (tiles1 p n).Pairwise (fun q q' => q.2 ≤ q'.1) := by
  rcases Nat.lt_or_ge 1 n with hn | hn
  · rw [tiles1_of_one_lt p hn, pairwise_map]
    exact (pairwise_lt_range (n := n)).imp fun hij => knot_mono _ _ _ hp _ _ hij
  · rw [tiles1_of_le_one p hn]
    exact pairwise_singleton _ _

/-- tile `j` of the `n·m` subdivision lies inside tile `j / m` of the `n` subdivision -/
theorem tiles1_refine (p : Rat × Rat) (hp : p.1 ≤ p.2) (n m : Nat) (hm : 1 ≤ m) (q : Rat × Rat)
    (hq : q ∈ tiles1 p (n * m)) : ∃ q' ∈ tiles1 p n, q'.1 ≤ q.1 ∧ q.1 ≤ q.2 ∧ q.2 ≤ q'.2 := by
  rcases Nat.lt_or_ge 1 n with hn | hn
  · have hnm : 1 < n * m := lt_of_lt_of_le hn (Nat.le_mul_of_pos_right n hm)
    rw [tiles1_of_one_lt p hnm] at hq
    obtain ⟨j, hj, rfl⟩ := mem_map.mp hq
    have hj' : j / m < n := (Nat.div_lt_iff_lt_mul hm).mpr (mem_range.mp hj)
    refine ⟨(knot p.1 p.2 n (j / m), knot p.1 p.2 n (j / m + 1)), ?_, ?_, knot_mono _ _ _ hp _ _ (by omega), ?_⟩
    · rw [tiles1_of_one_lt p hn]
      exact mem_map.mpr ⟨j / m, mem_range.mpr hj', rfl⟩
    · rw [← knot_refine p.1 p.2 n m (j / m) (by omega) (by omega)]
      exact knot_mono _ _ _ hp _ _ (Nat.div_mul_le_self j m)
    · rw [← knot_refine p.1 p.2 n m (j / m + 1) (by omega) (by omega)]
      refine knot_mono _ _ _ hp _ _ ?_
      have := Nat.lt_div_mul_add hm (a := j)
      rw [Nat.add_mul, Nat.one_mul]
      omega
  · exact ⟨p, by rw [tiles1_of_le_one p hn]; exact mem_singleton_self p, tiles1_within p (n * m) hp q hq⟩

end Pun.B2B
