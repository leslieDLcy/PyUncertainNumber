import Pun.Lemmas.HierScale
/-!
# When the converted-first expression answers

On well-formed operands the sum, the difference, the perfect / opposite / independent product and
quotient always answer (reusing `Pun.Iso.add_iso`, `Pun.Iso.*_facts` of C12 and the non-negativity
lemmas of C04); the Frechet product / quotient answers when neither operand straddles zero, or when one
operand is an embedded number.  (For two zero-straddling operands the Frechet product answers iff the
imposition of the naive and the Balch bounds is not empty — their soundness is not proved here.)
-/
namespace Pun.Hier
open Pun Pun.PBox

theorem rule_total (n m : Nat) (hm : m = n ∨ n < m) (p : List Rat × List Rat) (f : Iso.RuleFacts m p) :
    ∃ R, mk n false p.1 p.2 = .ok R ∧ WF n R := by
  obtain ⟨R, R', h1, -, -, w, -⟩ := Iso.mk_iso hm false f f ⟨Iso.LE.refl _, Iso.LE.refl _⟩ rfl rfl
  exact ⟨R, h1, wf_of_iso w⟩

theorem add_total (n : Nat) (d : Dep) (hd : d ≠ .unknown) (X Y : PB) (hX : WF n X) (hY : WF n Y) :
    ∃ R, add n d X Y = .ok R ∧ WF n R := by
  obtain ⟨R, R', h1, -, -, w, -⟩ := Iso.add_iso n d hd (wf_iso hX) (wf_iso hX) (wf_iso hY) (wf_iso hY)
    (Iso.PSub.refl X) (Iso.PSub.refl Y)
  exact ⟨R, h1, wf_of_iso w⟩

theorem sub_total (n : Nat) (d : Dep) (hd : d ≠ .unknown) (X Y : PB) (hX : WF n X) (hY : WF n Y) :
    ∃ R, sub n d X Y = .ok R ∧ WF n R := by
  obtain ⟨hneg, hwn⟩ := neg_wf n Y hY
  unfold sub
  rw [hneg, ok_bind]
  exact add_total n _ (swapPO_ne_unknown d hd) X _ hX hwn

theorem mul_poi_total (n : Nat) (d : Dep) (hd : d = .p ∨ d = .o ∨ d = .i) (X Y : PB) (hX : WF n X) (hY : WF n Y) :
    ∃ R, mul n d X Y = .ok R ∧ WF n R := by
  rcases hd with h | h | h <;> subst h
  · exact rule_total n n (Or.inl rfl) (perfectOp (· * ·) X Y) (Iso.perfectOp_facts (· * ·) n (wf_iso hX) (wf_iso hY))
  · exact rule_total n n (Or.inl rfl) (oppositeOp (· * ·) X Y) (Iso.oppositeOp_facts (· * ·) n (wf_iso hX) (wf_iso hY))
  · exact rule_total n (n * n) (Iso.sq_cases n) (independentOp (· * ·) X Y)
      (Iso.independentOp_facts (· * ·) n (wf_iso hX) (wf_iso hY))

theorem classic_mul_total (n : Nat) (X Y : PB) (hX : WF n X) (hY : WF n Y)
    (pX : NonNeg X) (pY : NonNeg Y) :
    ∃ R, classicFrechet n (· * ·) X Y = .ok R ∧ WF n R := by
  unfold classicFrechet
  rw [frechetOp_mul_eq X Y pX pY]
  exact rule_total n n (Or.inl rfl) (frechetOp mulPos X Y) (Iso.frechetOp_facts mulPos mulPos_mono2 n (wf_iso hX) (wf_iso hY))

theorem noStraddle_total (n : Nat) (X Y : PB) (hX : WF n X) (hY : WF n Y)
    (sX : straddlesZero X = false) (sY : straddlesZero Y = false) :
    ∃ R, frechetMulNoStraddle n X Y = .ok R ∧ WF n R := by
  obtain ⟨hnX, wnX⟩ := neg_wf n X hX
  obtain ⟨hnY, wnY⟩ := neg_wf n Y hY
  by_cases qx : hi X ≤ 0 <;> by_cases qy : hi Y ≤ 0
  · rw [noStraddle_nn n X Y qx qy, hnX, ok_bind, hnY, ok_bind]
    exact classic_mul_total n _ _ wnX wnY (Pun.WF.neg_nonneg (wf_c04 hX) qx hnX)
      (Pun.WF.neg_nonneg (wf_c04 hY) qy hnY)
  · obtain ⟨R, hR, wR⟩ := classic_mul_total n _ _ wnX hY (Pun.WF.neg_nonneg (wf_c04 hX) qx hnX)
      (Pun.WF.nonneg_of_not_straddle (wf_c04 hY) qy sY)
    rw [noStraddle_np n X Y qx qy, hnX, ok_bind, hR, ok_bind]
    exact ⟨_, neg_wf n R wR⟩
  · obtain ⟨R, hR, wR⟩ := classic_mul_total n _ _ hX wnY (Pun.WF.nonneg_of_not_straddle (wf_c04 hX) qx sX)
      (Pun.WF.neg_nonneg (wf_c04 hY) qy hnY)
    rw [noStraddle_pn n X Y qx qy, hnY, ok_bind, hR, ok_bind]
    exact ⟨_, neg_wf n R wR⟩
  · rw [noStraddle_pp n X Y qx qy]
    exact classic_mul_total n X Y hX hY (Pun.WF.nonneg_of_not_straddle (wf_c04 hX) qx sX)
      (Pun.WF.nonneg_of_not_straddle (wf_c04 hY) qy sY)

theorem mul_total (n : Nat) (hn : 0 < n) (d : Dep) (hd : d ≠ .unknown) (X Y : PB) (hX : WF n X) (hY : WF n Y)
    (hf : d = .f → (straddlesZero X = false ∧ straddlesZero Y = false) ∨
      (∃ c, X = ofIvl n c c) ∨ (∃ c, Y = ofIvl n c c)) :
    ∃ R, mul n d X Y = .ok R ∧ WF n R := by
  cases d with
  | f =>
    rcases hf rfl with ⟨sX, sY⟩ | ⟨c, hc⟩ | ⟨c, hc⟩
    · simp only [mul, frechetMul, sX, sY, Bool.or_self, Bool.false_eq_true, if_false]
      exact noStraddle_total n X Y hX hY sX sY
    · subst hc
      have h1 : mul n .f Y (ofIvl n c c) = .ok (scaleP Y c) := by
        rw [mul_const_all n hn .f (by decide) Y hY c]; exact numberOp_mul_wf n Y hY c
      exact ⟨_, mul_comm_ok n .f _ _ _ hY.len (len_ofIvl n c c) h1, wf_scaleP n Y hY c⟩
    · subst hc
      refine ⟨scaleP X c, ?_, wf_scaleP n X hX c⟩
      rw [mul_const_all n hn .f (by decide) X hX c]; exact numberOp_mul_wf n X hX c
  | p => exact mul_poi_total n .p (Or.inl rfl) X Y hX hY
  | o => exact mul_poi_total n .o (Or.inr (Or.inl rfl)) X Y hX hY
  | i => exact mul_poi_total n .i (Or.inr (Or.inr rfl)) X Y hX hY
  | unknown => exact absurd rfl hd

/-! ## reciprocal and quotient -/

def SameSign (Y : PB) : Prop :=
  ((∀ v ∈ Y.left, 0 < v) ∧ (∀ v ∈ Y.right, 0 < v)) ∨ ((∀ v ∈ Y.left, v < 0) ∧ (∀ v ∈ Y.right, v < 0))

theorem sameSign_of (n : Nat) (Y : PB) (hY : WF n Y) (h : (∀ v ∈ Y.left, 0 < v) ∨ (∀ v ∈ Y.right, v < 0)) :
    SameSign Y := by
  rcases h with h | h
  · left; refine ⟨h, ?_⟩
    intro v hv
    obtain ⟨i, hi, rfl⟩ := List.getElem_of_mem hv
    have h2 : i < Y.left.length := by rw [hY.llen, ← hY.rlen]; exact hi
    exact lt_of_lt_of_le (h _ (List.getElem_mem h2)) (getElem_le_of_forall₂ hY.le i h2 hi)
  · right; refine ⟨?_, h⟩
    intro v hv
    obtain ⟨i, hi, rfl⟩ := List.getElem_of_mem hv
    have h2 : i < Y.right.length := by rw [hY.rlen, ← hY.llen]; exact hi
    exact lt_of_le_of_lt (getElem_le_of_forall₂ hY.le i hi h2) (h _ (List.getElem_mem h2))

theorem recip_total (n : Nat) (Y : PB) (hY : WF n Y) (hs : SameSign Y) :
    ∃ R, recip n Y = .ok R ∧ WF n R ∧ SameSign R := by
  -- a sign `p` that excludes zero, on which `1/x` is decreasing, and which `1/x` keeps
  have key : ∀ p : Rat → Prop, (∀ x, p x → x ≠ 0) → (∀ x y, p x → p y → x ≤ y → 1 / y ≤ 1 / x) →
      (∀ x, p x → p (1 / x)) → (∀ v ∈ Y.left, p v) → (∀ v ∈ Y.right, p v) →
      ∃ R, recip n Y = .ok R ∧ WF n R ∧ (∀ v ∈ R.left, p v) ∧ (∀ v ∈ R.right, p v) := by
    intro p hne hanti hinv hl hr
    have mem : ∀ l : List Rat, (∀ v ∈ l, p v) → ∀ w ∈ l.reverse.map (1 / ·), p w := by
      intro l h w hw
      obtain ⟨v, hv, rfl⟩ := List.mem_map.mp hw
      exact hinv v (h v (List.mem_reverse.mp hv))
    exact ⟨_, Num.recip_ok n Y (wf_num hY) p hl hr hne hanti,
      wf_of_num (Num.wf_map_anti n Y (wf_num hY) (1 / ·) p hl hr hanti), mem _ hr, mem _ hl⟩
  rcases hs with h | h
  · obtain ⟨R, e, w, l, r⟩ := key (0 < ·) (fun _ hx => ne_of_gt hx)
      (fun x y hx _ hxy => one_div_anti x y hxy (Or.inl hx)) (fun _ hx => one_div_pos.mpr hx) h.1 h.2
    exact ⟨R, e, w, Or.inl ⟨l, r⟩⟩
  · obtain ⟨R, e, w, l, r⟩ := key (· < 0) (fun _ hx => ne_of_lt hx)
      (fun x y _ hy hxy => one_div_anti x y hxy (Or.inr hy)) (fun _ hx => one_div_neg.mpr hx) h.1 h.2
    exact ⟨R, e, w, Or.inr ⟨l, r⟩⟩

theorem div_total (n : Nat) (hn : 0 < n) (d : Dep) (hd : d ≠ .unknown) (X Y : PB) (hX : WF n X) (hY : WF n Y)
    (hs : SameSign Y)
    (hf : d = .f → straddlesZero X = false ∨ (∃ c, X = ofIvl n c c) ∨ (∃ c, Y = ofIvl n c c)) :
    ∃ R, div n d X Y = .ok R ∧ WF n R := by
  obtain ⟨R, hR, wR, sR⟩ := recip_total n Y hY hs
  unfold div
  rw [hR, ok_bind, numberOp_mul_wf n R wR 1, scaleP_one R]
  simp only
  apply mul_total n hn _ (swapPO_ne_unknown d hd) X R hX wR
  intro hsw
  have hdf : d = .f := by cases d <;> simp [swapPO] at hsw ⊢
  rcases hf hdf with h | h | ⟨c, hc⟩
  · exact Or.inl ⟨h, sR.elim (fun s => straddlesZero_false_pos R s.1 s.2) (fun s => straddlesZero_false_neg R s.1 s.2)⟩
  · exact Or.inr (Or.inl h)
  · subst hc
    have hcm : c ∈ (ofIvl n c c).left := by
      simp only [ofIvl, List.mem_replicate]; exact ⟨by omega, trivial⟩
    have h0 : 0 < c ∨ c < 0 := by
      rcases hs with h | h
      · exact Or.inl (h.1 c hcm)
      · exact Or.inr (h.1 c hcm)
    rw [recip_ofIvl n c c hn (le_refl c) h0] at hR
    injection hR with e
    exact Or.inr (Or.inr ⟨1 / c, e.symm⟩)

/-- **the p-box operation answers** on well-formed operands: always for sum and difference and for
perfect / opposite / independent product and quotient (divisor of one sign); for the Frechet product and
quotient when neither operand straddles zero or one of them is an embedded number -/
theorem binop_total (n : Nat) (hn : 0 < n) (o : Op) (d : Dep) (hd : d ≠ .unknown) (X Y : PB) (hX : WF n X) (hY : WF n Y)
    (hs : o = .div → SameSign Y)
    (hf : d = .f → (o = .mul ∨ o = .div) → (straddlesZero X = false ∧ straddlesZero Y = false) ∨
      (∃ c, X = ofIvl n c c) ∨ (∃ c, Y = ofIvl n c c)) :
    ∃ R, binop n o d X Y = .ok R ∧ WF n R := by
  cases o with
  | add => exact add_total n d hd X Y hX hY
  | sub => exact sub_total n d hd X Y hX hY
  | mul => exact mul_total n hn d hd X Y hX hY (fun h => hf h (Or.inl rfl))
  | div =>
    apply div_total n hn d hd X Y hX hY (hs rfl)
    intro h
    rcases hf h (Or.inr rfl) with h' | h' | h'
    · exact Or.inl h'.1
    · exact Or.inr (Or.inl h')
    · exact Or.inr (Or.inr h')

end Pun.Hier
