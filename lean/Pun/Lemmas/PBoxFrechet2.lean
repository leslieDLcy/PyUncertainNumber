import Pun.Lemmas.PBoxCorner
import Pun.Lemmas.PBoxNeg
import Pun.Lemmas.PBoxNum
import Pun.Lemmas.EnvImp
/-!
# Frechet arithmetic at the level of the public methods: sign routing, the zero-straddling product

* `good_frechet` — the base case: `classicFrechet` for an operation monotone in both arguments returns the
  raw bounds `rawF`, well formed, valid for every selection and coupling and attained entry by entry;
  `good_mul_nonneg` — the product of non-negative operands; `frechet_encloses_independent`;
* `mul_f_onesign_good` — the public `mul(…,'f')` on operands of one sign each, all four sign
  combinations, through `negativeFrechet`;
* images of a p-box under `· + c` and `· * c`, `c < 0` (`numberOp_shift`, `numberOp_flip`), `Valid.add_const`,
  `Valid.imp`;
* the zero-straddling product: `naive_allValid`, `naive_mk_ok`, `balchprod_allValid`,
  `straddleFrechet_valid`, **`mul_f_valid`** (every well-formed pair of operands)
  — through `Pun.EnvImp.imp_ok` and `Pun.PBox.Num.numberOp_mono/anti`.
-/
namespace Pun.PBox
open Pun Finset

/-! `WF` states `left ≤ right` entry by entry; the lemmas about `numberOp`, `neg`, `recip` (`Pun.PBox.Num`) and about
`env`, `imp` (`Pun.EnvImp`) state it as `List.Forall₂` -/

theorem wf_num (n : Nat) (P : PB) (h : WF n P) : Num.WF n P :=
  ⟨h.llen, h.rlen, h.lsorted, h.rsorted, forall₂_of_wf n P h⟩

theorem wf_envImp (n : Nat) (P : PB) (h : WF n P) : EnvImp.WF n P :=
  ⟨h.llen, h.rlen, h.lsorted, h.rsorted, forall₂_of_wf n P h⟩

theorem wf_of_num (n : Nat) (P : PB) (h : Num.WF n P) : WF n P :=
  ⟨⟨h.lenL, h.lenR, h.sortedL, h.sortedR⟩, fun i hi => getElem_le_of_forall₂ h.le i (by rw [h.lenL]; exact hi) _⟩

theorem wf_of_envImp (n : Nat) (P : PB) (h : EnvImp.WF n P) : WF n P :=
  ⟨⟨h.llen, h.rlen, h.lsorted, h.rsorted⟩, fun i hi => getElem_le_of_forall₂ h.le i (by rw [h.llen]; exact hi) _⟩

/-! ## base cases: `classicFrechet` for a monotone operation; product of non-negative operands -/

def rawF (op : Rat → Rat → Rat) (X Y : PB) : PB :=
  ⟨frechetLeftRaw op X.left Y.left, frechetRightRaw op X.right Y.right⟩

theorem frechetOp_eq_rawF (op : Rat → Rat → Rat) (hop : ∀ p p' q q', p ≤ p' → q ≤ q' → op p q ≤ op p' q')
    (n : Nat) (X Y : PB) (hX : WFS n X) (hY : WFS n Y) :
    frechetOp op X Y = ((rawF op X Y).left, (rawF op X Y).right) :=
  frechetOp_eq_raw op hop X Y (by rw [hX.llen, hY.llen]) (by rw [hX.rlen, hY.rlen]) hY.lsorted hX.rsorted

theorem rawF_allValid (op : Rat → Rat → Rat) (hop : ∀ p p' q q', p ≤ p' → q ≤ q' → op p q ≤ op p' q')
    (n : Nat) (X Y : PB) (hX : WFS n X) (hY : WFS n Y) :
    AllValid n op X Y (rawF op X Y) hX hY := by
  intro x y hx hy σ i l r hl hr
  exact ⟨frechetLeft_valid op hop X.left Y.left n hX.llen hY.llen hX.lsorted hY.lsorted x y
      (fun m => (hx m).1) (fun m => (hy m).1) σ i l hl,
    frechetRight_valid op hop X.right Y.right n hX.rlen hY.rlen hX.rsorted hY.rsorted x y
      (fun m => (hx m).2) (fun m => (hy m).2) σ i r hr⟩

theorem rawF_tight (op : Rat → Rat → Rat) (hop : ∀ p p' q q', p ≤ p' → q ≤ q' → op p q ≤ op p' q')
    (n : Nat) (X Y : PB) (hX : WFS n X) (hY : WFS n Y) (i : Fin n) :
    (∀ l, (rawF op X Y).left[i.val]? = some l → ∃ σ : Equiv.Perm (Fin n),
      IsRank n (fun m => op (X.left[m.val]'(by have := hX.llen; omega))
        (Y.left[(σ m).val]'(by have := hY.llen; omega))) i l) ∧
    (∀ r, (rawF op X Y).right[i.val]? = some r → ∃ σ : Equiv.Perm (Fin n),
      IsRank n (fun m => op (X.right[m.val]'(by have := hX.rlen; omega))
        (Y.right[(σ m).val]'(by have := hY.rlen; omega))) i r) := by
  constructor
  · intro l hl
    obtain ⟨σ, h1, h2⟩ := frechetLeft_tight op hop X.left Y.left n hX.llen hY.llen hX.lsorted hY.lsorted i l hl
    exact ⟨σ, ⟨h1, h2⟩⟩
  · intro r hr
    obtain ⟨σ, h1, h2⟩ := frechetRight_tight op hop X.right Y.right n hX.rlen hY.rlen hX.rsorted hY.rsorted i r hr
    exact ⟨σ, (isRank_iff_right _ _ _).mpr ⟨h1, h2⟩⟩

theorem good_frechet (op : Rat → Rat → Rat)
    (hop : ∀ p p' q q', p ≤ p' → q ≤ q' → op p q ≤ op p' q')
    (n : Nat) (X Y : PB) (hX : WF n X) (hY : WF n Y) :
    classicFrechet n op X Y = .ok (rawF op X Y) ∧ WF n (rawF op X Y) ∧
    Good n op X Y (rawF op X Y) hX.toWFS hY.toWFS := by
  have w : WF n (rawF op X Y) :=
    ⟨⟨by rw [rawF, frechetLeftRaw_length, hX.llen], by rw [rawF, frechetRightRaw_length, hX.rlen],
      frechetLeftRaw_sorted op hop X.left Y.left (by rw [hX.llen, hY.llen]) hY.lsorted,
      frechetRightRaw_sorted op hop X.right Y.right (by rw [hX.rlen, hY.rlen]) hX.rsorted⟩,
    fun i h => frechetRaw_le op hop X.left X.right Y.left Y.right n hX.llen hX.rlen hY.llen hY.rlen
      hX.rsorted hY.rsorted hX.le hY.le i h⟩
  refine ⟨?_, w, rawF_allValid op hop n X Y hX.toWFS hY.toWFS, ?_, ?_⟩
  · unfold classicFrechet
    simp only [frechetOp_eq_rawF op hop n X Y hX.toWFS hY.toWFS]
    exact mk_of_wf n (rawF op X Y) w
  · intro i l hl
    obtain ⟨σ, h⟩ := (rawF_tight op hop n X Y hX.toWFS hY.toWFS i).1 l hl
    exact ⟨_, _, sel_left n X hX, sel_left n Y hY, σ, h⟩
  · intro i r hr
    obtain ⟨σ, h⟩ := (rawF_tight op hop n X Y hX.toWFS hY.toWFS i).2 r hr
    exact ⟨_, _, sel_right n X hX, sel_right n Y hY, σ, h⟩

/-- **Frechet encloses the independent result** (any operation monotone in both arguments) -/
theorem frechet_encloses_independent (op : Rat → Rat → Rat)
    (hop : ∀ p p' q q', p ≤ p' → q ≤ q' → op p q ≤ op p' q')
    (n : Nat) (X Y : PB) (hX : WF n X) (hY : WF n Y) :
    ∃ D, mk n false (independentOp op X Y).1 (independentOp op X Y).2 = .ok D ∧ WF n D ∧
      Encloses (rawF op X Y) D := by
  obtain ⟨-, w, g⟩ := good_frechet op hop n X Y hX hY
  obtain ⟨D, e, wD, -⟩ := independentOp_mk op n X Y hX.toWFS hY.toWFS
  exact ⟨D, e, wD, independent_enclosed op n X Y _ D hX hY w.llen g.allValid e⟩

theorem sel_nonneg (n : Nat) (X : PB) (hX : WFS n X) (pX : NonNeg X) (x : Fin n → Rat) (hx : Sel n X hX x)
    (m : Fin n) : 0 ≤ x m :=
  le_trans (pX.1 _ (List.getElem_mem _)) (hx m).1

/-- **Frechet product of non-negative operands** (`classic_frechet_pbox(x, y, mul)`) -/
theorem good_mul_nonneg (n : Nat) (X Y : PB) (hX : WF n X) (hY : WF n Y) (pX : NonNeg X) (pY : NonNeg Y) :
    classicFrechet n (· * ·) X Y = .ok (rawF mulPos X Y) ∧ WF n (rawF mulPos X Y) ∧
    Good n (· * ·) X Y (rawF mulPos X Y) hX.toWFS hY.toWFS := by
  obtain ⟨h1, h2, h3⟩ := good_frechet mulPos mulPos_mono2 n X Y hX hY
  refine ⟨?_, h2, h3.congr_sel (fun x y hx hy m k =>
    mulPos_eq _ _ (sel_nonneg n X hX.toWFS pX x hx m) (sel_nonneg n Y hY.toWFS pY y hy k))⟩
  unfold classicFrechet at h1 ⊢
  rw [frechetOp_mul_eq X Y pX pY]
  exact h1

/-! ## negation and sign classes -/

theorem neg_wf (n : Nat) (Y : PB) (hY : WF n Y) : neg n Y = .ok (negB Y) ∧ WF n (negB Y) :=
  ⟨Num.neg_ok n Y (wf_num n Y hY), (flipB_wf _ _ antiInv_neg n Y hY (inS_true Y)).1⟩

theorem nonneg_negB (p : PB) (h : NonPos p) : NonNeg (negB p) :=
  ⟨List.forall_mem_map.mpr fun a ha => neg_nonneg.mpr (h.2 a (List.mem_reverse.mp ha)),
    List.forall_mem_map.mpr fun a ha => neg_nonneg.mpr (h.1 a (List.mem_reverse.mp ha))⟩

theorem WF.right_of_left {n : Nat} {p : PB} (hp : WF n p) (P : Rat → Prop) (up : ∀ a b, a ≤ b → P a → P b)
    (h : ∀ v ∈ p.left, P v) : ∀ v ∈ p.right, P v := by
  intro v hv
  obtain ⟨i, hi, rfl⟩ := List.getElem_of_mem hv
  have hl := hp.llen
  have hr := hp.rlen
  exact up _ _ (hp.le i (by omega)) (h _ (List.getElem_mem _))

theorem WF.left_of_right {n : Nat} {p : PB} (hp : WF n p) (P : Rat → Prop) (down : ∀ a b, a ≤ b → P b → P a)
    (h : ∀ v ∈ p.right, P v) : ∀ v ∈ p.left, P v := by
  intro v hv
  obtain ⟨i, hi, rfl⟩ := List.getElem_of_mem hv
  have hl := hp.llen
  have hr := hp.rlen
  exact down _ _ (hp.le i (by omega)) (h _ (List.getElem_mem _))

theorem hi_le_of_nonpos (p : PB) (h : NonPos p) : hi p ≤ 0 := by
  by_cases hne : p.right = []
  · simp [hi, hne]
  · exact h.2 _ (hi_mem hne)

theorem nonpos_of_hi (n : Nat) (p : PB) (hp : WF n p) (h : hi p ≤ 0) : NonPos p := by
  have key : ∀ v ∈ p.right, v ≤ 0 := fun v hv => le_trans (le_hi p hp.rsorted v hv) h
  exact ⟨hp.left_of_right (· ≤ 0) (fun a b hab hb => le_trans hab hb) key, key⟩

theorem nonneg_of_not_hi (p : PB) (s : OneSign p) (h : ¬ hi p ≤ 0) : NonNeg p := by
  rcases s with s | s
  · exact s
  · exact absurd (hi_le_of_nonpos p s) h

theorem not_straddles_of_nonneg (p : PB) (h : NonNeg p) : straddlesZero p = false :=
  straddlesZero_false_of_left_nonneg p h.1

theorem not_straddles_of_nonpos (p : PB) (h : NonPos p) : straddlesZero p = false :=
  straddlesZero_false_of_right_nonpos p h.2

theorem not_straddles_of_oneSign (p : PB) (h : OneSign p) : straddlesZero p = false := by
  rcases h with h | h
  · exact not_straddles_of_nonneg p h
  · exact not_straddles_of_nonpos p h

/-- for well-formed boxes "one sign" is exactly the model's routing test `not straddles_zero` -/
theorem oneSign_of_not_straddles (n : Nat) (p : PB) (hp : WF n p) (h : straddlesZero p = false) :
    OneSign p := by
  unfold straddlesZero at h
  simp only [Bool.and_eq_false_iff, decide_eq_false_iff_not, not_lt] at h
  rcases h with h | h
  · left
    have key : ∀ v ∈ p.left, 0 ≤ v :=
      fun v hv => le_trans h ((minL_spec 0 p.left (List.ne_nil_of_mem hv)).2 v hv)
    exact ⟨key, hp.right_of_left (0 ≤ ·) (fun a b hab ha => le_trans ha hab) key⟩
  · right
    have key : ∀ v ∈ p.right, v ≤ 0 :=
      fun v hv => le_trans ((maxL_spec 0 p.right (List.ne_nil_of_mem hv)).2 v hv) h
    exact ⟨hp.left_of_right (· ≤ 0) (fun a b hab hb => le_trans hab hb) key, key⟩

/-! ## the public Frechet product on operands of one sign each -/

/-- **`X.mul(Y, 'f')` for operands of one sign each (all four sign combinations, including operands
that touch zero)**: the model's routing through `negativeFrechet` (negate the non-positive operands,
multiply by the classic rule, negate the result when exactly one operand was negated). -/
theorem mul_f_onesign_good (n : Nat) (X Y : PB) (hX : WF n X) (hY : WF n Y)
    (sX : OneSign X) (sY : OneSign Y) :
    ∃ R, mul n .f X Y = .ok R ∧ WF n R ∧ Good n (· * ·) X Y R hX.toWFS hY.toWFS := by
  rw [mul_f_noStraddle n X Y (not_straddles_of_oneSign X sX) (not_straddles_of_oneSign Y sY)]
  obtain ⟨enX, wnX⟩ := neg_wf n X hX
  obtain ⟨enY, wnY⟩ := neg_wf n Y hY
  by_cases hx : hi X ≤ 0 <;> by_cases hy : hi Y ≤ 0
  · -- both non-positive: (-X)(-Y)
    have pX := nonneg_negB X (nonpos_of_hi n X hX hx)
    have pY := nonneg_negB Y (nonpos_of_hi n Y hY hy)
    obtain ⟨e, w, g⟩ := good_mul_nonneg n (negB X) (negB Y) wnX wnY pX pY
    refine ⟨rawF mulPos (negB X) (negB Y), ?_, w, ?_⟩
    · rw [noStraddle_nn n X Y hx hy, enX, ok_bind, enY, ok_bind, e]
    · have g1 := g.flipY _ _ antiInv_neg hY.toWFS (inS_true Y) wnY.toWFS
      have g2 := g1.flipX _ _ antiInv_neg hX.toWFS (inS_true X) wnX.toWFS
      exact g2.congr (fun a b => by simp)
  · -- X non-positive, Y non-negative: -((-X) Y)
    have pX := nonneg_negB X (nonpos_of_hi n X hX hx)
    have pY := nonneg_of_not_hi Y sY hy
    obtain ⟨e, w, g⟩ := good_mul_nonneg n (negB X) Y wnX hY pX pY
    obtain ⟨enR, wnR⟩ := neg_wf n _ w
    refine ⟨negB (rawF mulPos (negB X) Y), ?_, wnR, ?_⟩
    · rw [noStraddle_np n X Y hx hy, enX, ok_bind, e, ok_bind, enR]
    · have g1 := g.flipX _ _ antiInv_neg hX.toWFS (inS_true X) wnX.toWFS
      have g2 := g1.negOut w.llen w.rlen
      exact g2.congr (fun a b => by simp)
  · -- X non-negative, Y non-positive: -(X (-Y))
    have pX := nonneg_of_not_hi X sX hx
    have pY := nonneg_negB Y (nonpos_of_hi n Y hY hy)
    obtain ⟨e, w, g⟩ := good_mul_nonneg n X (negB Y) hX wnY pX pY
    obtain ⟨enR, wnR⟩ := neg_wf n _ w
    refine ⟨negB (rawF mulPos X (negB Y)), ?_, wnR, ?_⟩
    · rw [noStraddle_pn n X Y hx hy, enY, ok_bind, e, ok_bind, enR]
    · have g1 := g.flipY _ _ antiInv_neg hY.toWFS (inS_true Y) wnY.toWFS
      have g2 := g1.negOut w.llen w.rlen
      exact g2.congr (fun a b => by simp)
  · -- both non-negative
    have pX := nonneg_of_not_hi X sX hx
    have pY := nonneg_of_not_hi Y sY hy
    obtain ⟨e, w, g⟩ := good_mul_nonneg n X Y hX hY pX pY
    exact ⟨rawF mulPos X Y, (noStraddle_pp n X Y hx hy).trans e, w, g⟩

/-! ## images of a p-box under `· + c` (monotone) and `· * c`, `c < 0` (antitone) -/

def mapB (g : Rat → Rat) (p : PB) : PB := ⟨p.left.map g, p.right.map g⟩

/-- `P + c`, `P - c` (`pbox_number_ops`): every bound shifted -/
theorem numberOp_shift (n : Nat) (f : Rat → Rat → Rat) (c : Rat) (P : PB) (h : WF n P)
    (hf : ∀ x y, x ≤ y → f x c ≤ f y c) :
    numberOp n f P c = .ok (mapB (f · c) P) ∧ WF n (mapB (f · c) P) :=
  ⟨Num.numberOp_mono n f P c (wf_num n P h) (fun _ => True) (fun _ _ => trivial) (fun _ _ => trivial)
      (fun x y _ _ hxy => hf x y hxy),
    wf_of_num n _ (Num.wf_map_mono n P (wf_num n P h) (f · c) (fun _ => True) (fun _ _ => trivial)
      (fun _ _ => trivial) (fun x y _ _ hxy => hf x y hxy))⟩

/-- `P * c` for an order-reversing constant: bounds exchanged and reversed -/
theorem numberOp_flip (n : Nat) (f : Rat → Rat → Rat) (c : Rat) (P : PB) (h : WF n P)
    (hf : ∀ x y, x ≤ y → f y c ≤ f x c) :
    numberOp n f P c = .ok (flipB (f · c) P) ∧ WF n (flipB (f · c) P) :=
  ⟨Num.numberOp_anti n f P c (wf_num n P h) (fun _ => True) (fun _ _ => trivial) (fun _ _ => trivial)
      (fun x y _ _ hxy => hf x y hxy),
    wf_of_num n _ (Num.wf_map_anti n P (wf_num n P h) (f · c) (fun _ => True) (fun _ _ => trivial)
      (fun _ _ => trivial) (fun x y _ _ hxy => hf x y hxy))⟩

theorem sel_mapB (g : Rat → Rat) (hg : ∀ x y, x ≤ y → g x ≤ g y) (n : Nat) (P : PB) (hP : WFS n P)
    (hw : WFS n (mapB g P)) (w : Fin n → Rat) (h : Sel n P hP w) : Sel n (mapB g P) hw (fun m => g (w m)) := by
  intro m
  simp only [mapB, List.getElem_map]
  exact ⟨hg _ _ (h m).1, hg _ _ (h m).2⟩

theorem Valid.add_const {n : Nat} {R : PB} {z : Fin n → Rat} (h : Valid n R z) (c : Rat) :
    Valid n (mapB (· + c) R) (fun m => z m + c) := by
  intro i l r hl hr
  simp only [mapB, List.getElem?_map, Option.map_eq_some_iff] at hl hr
  obtain ⟨l0, hl0, rfl⟩ := hl
  obtain ⟨r0, hr0, rfl⟩ := hr
  simp only [add_lt_add_iff_right]
  exact h i l0 r0 hl0 hr0

theorem card_lt_max_le {n : Nat} (z : Fin n → Rat) {a b : Rat} {k : Nat}
    (ha : (univ.filter (fun m : Fin n => z m < a)).card ≤ k) (hb : (univ.filter (fun m : Fin n => z m < b)).card ≤ k) :
    (univ.filter (fun m : Fin n => z m < max a b)).card ≤ k := by
  rcases max_choice a b with e | e
  · rwa [e]
  · rwa [e]

theorem card_gt_min_le {n : Nat} (z : Fin n → Rat) {a b : Rat} {k : Nat}
    (ha : (univ.filter (fun m : Fin n => a < z m)).card ≤ k) (hb : (univ.filter (fun m : Fin n => b < z m)).card ≤ k) :
    (univ.filter (fun m : Fin n => min a b < z m)).card ≤ k := by
  rcases min_choice a b with e | e
  · rwa [e]
  · rwa [e]

/-- the entrywise intersection of two valid boxes is valid -/
theorem Valid.imp {n : Nat} {P Q : PB} {z : Fin n → Rat} (hP : Valid n P z) (hQ : Valid n Q z) :
    Valid n (EnvImp.impSpec P Q) z := by
  intro i l r hl hr
  obtain ⟨hl', rfl⟩ := List.getElem?_eq_some_iff.mp hl
  obtain ⟨hr', rfl⟩ := List.getElem?_eq_some_iff.mp hr
  simp only [EnvImp.impSpec, List.length_zipWith, lt_min_iff] at hl' hr'
  obtain ⟨a1, a2⟩ := hP i _ _ (List.getElem?_eq_getElem hl'.1) (List.getElem?_eq_getElem hr'.1)
  obtain ⟨b1, b2⟩ := hQ i _ _ (List.getElem?_eq_getElem hl'.2) (List.getElem?_eq_getElem hr'.2)
  simp only [EnvImp.impSpec, List.getElem_zipWith]
  exact ⟨card_lt_max_le z a1 b1, card_gt_min_le z a2 b2⟩

/-! ## the naive rule (`new_vectorised_naive_frechet_op`): valid for every coupling -/

def naiveB (X Y : PB) : PB := ⟨(naiveOp (· * ·) X Y).1, (naiveOp (· * ·) X Y).2⟩

theorem naiveB_eq (n : Nat) (X Y : PB) (hX : X.left.length = n) :
    naiveB X Y = ⟨(sortR (cornerGrid min4 (· * ·) X.left X.right Y.left Y.right)).take n,
      (sortR (cornerGrid max4 (· * ·) X.left X.right Y.left Y.right)).drop (n * n - n)⟩ := by
  subst hX
  rfl

theorem countP_lt_take_sortR (g : List Rat) (n i : Nat) (l : Rat) (h : ((sortR g).take n)[i]? = some l) :
    g.countP (fun x => decide (x < l)) ≤ i := by
  obtain ⟨hi, rfl⟩ := List.getElem?_eq_some_iff.mp h
  rw [List.getElem_take]
  exact countP_lt_sorted_getElem (sortR g) g (sortR_sorted g) (sortR_perm g) i _

theorem countP_gt_drop_sortR (g : List Rat) (N n i : Nat) (hN : g.length = N) (hn : n ≤ N) (r : Rat)
    (h : ((sortR g).drop (N - n))[i]? = some r) : g.countP (fun x => decide (r < x)) ≤ n - 1 - i := by
  obtain ⟨hi, rfl⟩ := List.getElem?_eq_some_iff.mp h
  rw [List.getElem_drop]
  have := countP_gt_sorted_getElem (sortR g) g (sortR_sorted g) (sortR_perm g) (N - n + i)
    (by simpa [Nat.lt_sub_iff_add_lt'] using hi)
  omega

/-- **the naive rule is valid for every selection and every coupling** (indeed for every assignment
`σ` of a `y`-step to each `x`-step): the `i`-th smallest of `n` cell minima taken from `n` distinct rows
is at least the `i`-th smallest of all `n²` cell minima, dually for the maxima -/
theorem naive_allValid (n : Nat) (X Y : PB) (hX : WF n X) (hY : WF n Y) :
    AllValid n (· * ·) X Y (naiveB X Y) hX.toWFS hY.toWFS := by
  intro x y hx hy σ i l r hl hr
  rw [naiveB_eq n X Y hX.llen] at hl hr
  have hull : ∀ m : Fin n, cell min4 (· * ·) hX.toWFS hY.toWFS m (σ m) ≤ x m * y (σ m) ∧
      x m * y (σ m) ≤ cell max4 (· * ·) hX.toWFS hY.toWFS m (σ m) := fun m =>
    mul_corner_hull _ _ _ _ _ _ (hx m).1 (hx m).2 (hy (σ m)).1 (hy (σ m)).2
  constructor
  · exact le_trans (card_le_card (monotone_filter_right _ (fun m _ hm => lt_of_le_of_lt (hull m).1 hm)))
      (le_trans (card_coupling_le_countP min4 (· * ·) (fun v => v < l) hX.toWFS hY.toWFS σ)
        (countP_lt_take_sortR _ n i.val l hl))
  · exact le_trans (card_le_card (monotone_filter_right _ (fun m _ hm => lt_of_lt_of_le hm (hull m).2)))
      (le_trans (card_coupling_le_countP max4 (· * ·) (fun v => r < v) hX.toWFS hY.toWFS σ)
        (countP_gt_drop_sortR _ (n * n) n i.val (cornerGrid_length _ _ _ _ _ _ n hX.llen hX.rlen hY.llen hY.rlen)
          (Nat.le_mul_self n) r hr))

theorem wf_take_drop (n N : Nat) (gl gr : List Rat) (hl : gl.length = N) (hr : gr.length = N) (hn : n ≤ N)
    (hle : List.Forall₂ (· ≤ ·) gl gr) : WF n ⟨(sortR gl).take n, (sortR gr).drop (N - n)⟩ := by
  have ll : (sortR gl).length = N := by rw [sortR_length, hl]
  have lr : (sortR gr).length = N := by rw [sortR_length, hr]
  refine ⟨⟨by simp [ll, hn], by simp [lr]; omega, (sortR_sorted gl).sublist (List.take_sublist _ _),
    (sortR_sorted gr).sublist (List.drop_sublist _ _)⟩, fun i h => ?_⟩
  simp only [List.getElem_take, List.getElem_drop]
  exact le_trans (getElem_le_of_forall₂ (sortR_forall₂ hle) i (by omega) _)
    (sorted_getElem_le (sortR_sorted gr) (by omega) (by omega))

theorem naive_mk_ok (n : Nat) (X Y : PB) (hX : WF n X) (hY : WF n Y) :
    mk n false (naiveOp (· * ·) X Y).1 (naiveOp (· * ·) X Y).2 = .ok (naiveB X Y) ∧ WF n (naiveB X Y) := by
  have lG : ∀ f, (cornerGrid f (· * ·) X.left X.right Y.left Y.right).length = n * n :=
    fun f => cornerGrid_length f _ _ _ _ _ n hX.llen hX.rlen hY.llen hY.rlen
  have w : WF n (naiveB X Y) := by
    rw [naiveB_eq n X Y hX.llen]
    exact wf_take_drop n (n * n) _ _ (lG min4) (lG max4) (Nat.le_mul_self n) (zip4_min_le_max _ _ _ _)
  exact ⟨mk_of_wf n (naiveB X Y) w, w⟩

/-! ## the straddling product: naive ∩ Balch -/

theorem mul_f_eq_noStraddle (n : Nat) (X Y : PB) (sX : straddlesZero X = false) (sY : straddlesZero Y = false) :
    mul n .f X Y = frechetMulNoStraddle n X Y := by
  simp [mul, frechetMul, sX, sY]

theorem mulNoStraddle_good (n : Nat) (X Y : PB) (hX : WF n X) (hY : WF n Y) (sX : OneSign X) (sY : OneSign Y) :
    ∃ R, frechetMulNoStraddle n X Y = .ok R ∧ WF n R ∧ Good n (· * ·) X Y R hX.toWFS hY.toWFS := by
  rw [← mul_f_eq_noStraddle n X Y (not_straddles_of_oneSign X sX) (not_straddles_of_oneSign Y sY)]
  exact mul_f_onesign_good n X Y hX hY sX sY

theorem lo_neg_of_straddles (n : Nat) (Y : PB) (hY : WF n Y) (s : straddlesZero Y = true) : lo Y < 0 := by
  unfold straddlesZero at s
  simp only [Bool.and_eq_true, decide_eq_true_eq] at s
  have ne : Y.left ≠ [] := by
    intro e
    rw [e] at s
    simp [minL] at s
  exact lt_of_le_of_lt (lo_le Y hY.lsorted _ (minL_spec 0 Y.left ne).1) s.1

theorem nonneg_shift_lo (n : Nat) (Y : PB) (hY : WF n Y) : NonNeg (mapB (fun v => v - lo Y) Y) := by
  have key : ∀ v ∈ Y.left, 0 ≤ v - lo Y := fun v hv => sub_nonneg.mpr (lo_le Y hY.lsorted v hv)
  have key' := hY.right_of_left (fun v => 0 ≤ v - lo Y) (fun a b hab ha => le_trans ha (sub_le_sub_right hab _)) key
  exact ⟨List.forall_mem_map.mpr key, List.forall_mem_map.mpr key'⟩

theorem sub_const_mono (c : Rat) : ∀ x y : Rat, x ≤ y → (fun a b => a - b) x c ≤ (fun a b => a - b) y c :=
  fun _ _ h => sub_le_sub_right h c

theorem add_const_mono (c : Rat) : ∀ x y : Rat, x ≤ y → (fun a b => a + b) x c ≤ (fun a b => a + b) y c :=
  fun _ _ h => add_le_add h (le_refl c)

theorem mul_neg_anti (c : Rat) (hc : c < 0) :
    ∀ x y : Rat, x ≤ y → (fun a b => a * b) y c ≤ (fun a b => a * b) x c :=
  fun _ _ h => mul_le_mul_of_nonpos_right h (le_of_lt hc)

/-- **`x.balchprod(y)`** (`y` straddles zero; `x` may or may not): every step of the decomposition
`xy = (x−x₀)(y−y₀) + y₀(x−x₀) + x₀(y−y₀) + x₀y₀` (resp. `xy = x(y−y₀) + x y₀`) returns a well-formed
p-box, and the result is valid for every selection and every coupling — the summands are valid
outcome families of their boxes and validity composes through the Frechet sums (`AllValid.comp`). -/
theorem balchprod_allValid (n : Nat) (X Y : PB) (hX : WF n X) (hY : WF n Y) (sY : straddlesZero Y = true) :
    ∃ B, balchprod n X Y = .ok B ∧ WF n B ∧ AllValid n (· * ·) X Y B hX.toWFS hY.toWFS := by
  have hy0 := lo_neg_of_straddles n Y hY sY
  obtain ⟨e2, w2⟩ := numberOp_shift n (fun a b => a - b) (lo Y) Y hY (sub_const_mono _)
  have p2 := nonneg_shift_lo n Y hY
  by_cases sX : straddlesZero X = true
  · have hx0 := lo_neg_of_straddles n X hX sX
    obtain ⟨e1, w1⟩ := numberOp_shift n (fun a b => a - b) (lo X) X hX (sub_const_mono _)
    have p1 := nonneg_shift_lo n X hX
    obtain ⟨A, eA, wA, gA⟩ := mulNoStraddle_good n _ _ w1 w2 (Or.inl p1) (Or.inl p2)
    obtain ⟨e3, w3⟩ := numberOp_flip n (fun a b => a * b) (lo Y) _ w1 (mul_neg_anti _ hy0)
    obtain ⟨e4, w4⟩ := numberOp_flip n (fun a b => a * b) (lo X) _ w2 (mul_neg_anti _ hx0)
    obtain ⟨e5, w5, g5⟩ := good_frechet (fun a b => a + b) add_mono2 n _ _ w3 w4
    obtain ⟨e6, w6, g6⟩ := good_frechet (fun a b => a + b) add_mono2 n _ _ wA w5
    obtain ⟨e7, w7⟩ := numberOp_shift n (fun a b => a + b) (lo X * lo Y) _ w6 (add_const_mono _)
    refine ⟨_, ?_, w7, ?_⟩
    · simp only [balchprod, sX, sY, Bool.and_self, if_true, e1, e2, eA, e3, e4, e5, e6, e7, bind, Except.bind]
    · intro x y hx hy σ
      have selx := sel_mapB (fun v => v - lo X) (fun a b h => sub_le_sub_right h _) n X hX.toWFS w1.toWFS x hx
      have sely := sel_mapB (fun v => v - lo Y) (fun a b h => sub_le_sub_right h _) n Y hY.toWFS w2.toWFS y hy
      have hu := gA.valid _ _ selx sely σ
      have hv1 := valid_flipB (fun v => v * lo Y) (mul_neg_anti _ hy0) n _ w1.toWFS w3.toWFS _ selx
      have hv2 := (valid_flipB (fun v => v * lo X) (mul_neg_anti _ hx0) n _ w2.toWFS w4.toWFS _ sely).reindex σ
      have hv := g5.allValid.comp _ _ hv1 hv2
      have hs := g6.allValid.comp _ _ hu hv
      have hfin := hs.add_const (lo X * lo Y)
      have e : (fun m => x m * y (σ m)) = (fun m => (x m - lo X) * (y (σ m) - lo Y) +
          ((x m - lo X) * lo Y + (y (σ m) - lo Y) * lo X) + lo X * lo Y) := by
        funext m; ring
      rw [e]
      exact hfin
  · have sX' : straddlesZero X = false := by simpa using sX
    have oX := oneSign_of_not_straddles n X hX sX'
    obtain ⟨A, eA, wA, gA⟩ := mulNoStraddle_good n X _ hX w2 oX (Or.inl p2)
    obtain ⟨e3, w3⟩ := numberOp_flip n (fun a b => a * b) (lo Y) X hX (mul_neg_anti _ hy0)
    obtain ⟨e6, w6, g6⟩ := good_frechet (fun a b => a + b) add_mono2 n _ _ wA w3
    refine ⟨_, ?_, w6, ?_⟩
    · simp only [balchprod, sX', sY, Bool.false_and, Bool.false_eq_true, if_false, if_true, e2, eA, e3, e6, bind,
        Except.bind]
    · intro x y hx hy σ
      have sely := sel_mapB (fun v => v - lo Y) (fun a b h => sub_le_sub_right h _) n Y hY.toWFS w2.toWFS y hy
      have hu := gA.valid _ _ hx sely σ
      have hv := valid_flipB (fun v => v * lo Y) (mul_neg_anti _ hy0) n X hX.toWFS w3.toWFS x hx
      have hs := g6.allValid.comp _ _ hu hv
      have e : (fun m => x m * y (σ m)) = (fun m => x m * (y (σ m) - lo Y) + x m * lo Y) := by
        funext m; ring
      rw [e]
      exact hs

theorem straddleFrechet_eq (n : Nat) (X Y : PB) :
    straddleFrechet n X Y =
      (mk n false (naiveOp (· * ·) X Y).1 (naiveOp (· * ·) X Y).2 >>= fun nv =>
        balchprod n X Y >>= fun bl => imp n nv bl) := rfl

theorem compat_of_common_valid (n : Nat) (P Q : PB) (hP : WF n P) (hQ : WF n Q) (z : Fin n → Rat)
    (vP : Valid n P z) (vQ : Valid n Q z) : EnvImp.Compat P Q := by
  have sP := Valid.sel_of_monotone hP.toWFS (fun m => z (Tuple.sort z m)) (Tuple.monotone_sort z)
    (vP.reindex (Tuple.sort z))
  have sQ := Valid.sel_of_monotone hQ.toWFS (fun m => z (Tuple.sort z m)) (Tuple.monotone_sort z)
    (vQ.reindex (Tuple.sort z))
  unfold EnvImp.Compat EnvImp.PLe
  rw [List.forall₂_iff_get]
  refine ⟨by simp [hP.llen, hQ.llen, hP.rlen, hQ.rlen], fun i h1 h2 => ?_⟩
  simp only [List.length_zipWith, hP.llen, hQ.llen, min_self] at h1
  simp only [List.get_eq_getElem, List.getElem_zipWith]
  have a := sP ⟨i, h1⟩
  have b := sQ ⟨i, h1⟩
  exact le_trans (max_le a.1 b.1) (le_min a.2 b.2)

/-- **`straddle_frechet_pbox(x, y)`** (`y` straddles zero) returns the step-wise intersection of the naive and the
Balch bounds, well formed and valid for every selection and coupling.  The imposition never fails: both bounds are
valid for the outcomes of the lower bounds, hence they meet -/
theorem straddleFrechet_valid (n : Nat) (X Y : PB) (hX : WF n X) (hY : WF n Y) (sY : straddlesZero Y = true) :
    ∃ R, straddleFrechet n X Y = .ok R ∧ WF n R ∧ AllValid n (· * ·) X Y R hX.toWFS hY.toWFS := by
  obtain ⟨eN, wN⟩ := naive_mk_ok n X Y hX hY
  obtain ⟨B, eB, wB, vB⟩ := balchprod_allValid n X Y hX hY sY
  have vN := naive_allValid n X Y hX hY
  have hc := compat_of_common_valid n _ _ wN wB _
    (vN _ _ (sel_left n X hX) (sel_left n Y hY) (Equiv.refl _))
    (vB _ _ (sel_left n X hX) (sel_left n Y hY) (Equiv.refl _))
  refine ⟨EnvImp.impSpec (naiveB X Y) B, ?_,
    wf_of_envImp n _ (EnvImp.impSpec_wf (wf_envImp n _ wN) (wf_envImp n _ wB) hc),
    fun x y hx hy σ => (vN x y hx hy σ).imp (vB x y hx hy σ)⟩
  rw [straddleFrechet_eq]
  simp only [eN, eB, bind, Except.bind]
  exact EnvImp.imp_ok (wf_envImp n _ wN) (wf_envImp n _ wB) hc

theorem mul_f_cases (n : Nat) (X Y : PB) :
    (straddlesZero Y = true ∧ mul n .f X Y = straddleFrechet n X Y) ∨
    (straddlesZero Y = false ∧ straddlesZero X = true ∧ mul n .f X Y = straddleFrechet n Y X) ∨
    (straddlesZero Y = false ∧ straddlesZero X = false) := by
  cases sY : straddlesZero Y <;> cases sX : straddlesZero X <;> simp [mul, frechetMul, sX, sY]

/-- **`X.mul(Y, 'f')` returns a well-formed p-box that is valid, for ALL well-formed operands** — one-signed
operands through the sign routing, zero-straddling operands through naive ∩ Balch (with the operands exchanged when
only the first one straddles) -/
theorem mul_f_valid (n : Nat) (X Y : PB) (hX : WF n X) (hY : WF n Y) :
    ∃ R, mul n .f X Y = .ok R ∧ WF n R ∧ AllValid n (· * ·) X Y R hX.toWFS hY.toWFS := by
  rcases mul_f_cases n X Y with ⟨sY, e⟩ | ⟨sY, sX, e⟩ | ⟨sY, sX⟩
  · rw [e]
    exact straddleFrechet_valid n X Y hX hY sY
  · rw [e]
    obtain ⟨R, eR, w, v⟩ := straddleFrechet_valid n Y X hY hX sX
    exact ⟨R, eR, w, v.swap.congr (fun a b => mul_comm b a)⟩
  · obtain ⟨R, e, w, g⟩ := mul_f_onesign_good n X Y hX hY (oneSign_of_not_straddles n X hX sX)
      (oneSign_of_not_straddles n Y hY sY)
    exact ⟨R, e, w, g.allValid⟩

end Pun.PBox
