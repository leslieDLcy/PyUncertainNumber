import Pun.Model.EnvImp
import Pun.Lemmas.PBoxMk
import Mathlib.Data.List.Sort
import Mathlib.Data.List.Forall2
import Mathlib.Data.List.Perm.Basic
import Mathlib.Algebra.Order.Field.Rat
/-!
# Lemmas for C11 (envelope and imposition)

On well-formed boxes `env` returns the pointwise `envSpec` and `imp` the pointwise `impSpec`, the latter exactly when
every step of one operand meets the same step of the other (`Compat`), which is when the operands share a selection.
For the containment order `Sub` these are the least upper and the greatest lower bound, and the n-ary functions are
folds of them: a fold of a join returns the least upper bound of the family, so the listing order does not matter.
-/
namespace Pun.EnvImp
open Pun Pun.PBox

abbrev PLe (a b : List Rat) : Prop := List.Forall₂ (· ≤ ·) a b

theorem PLe.rfl (a : List Rat) : PLe a a := List.forall₂_refl a

theorem PLe.trans {a b c : List Rat} (h1 : PLe a b) (h2 : PLe b c) : PLe a c := by
  induction h1 generalizing c with
  | nil => cases h2; exact .nil
  | cons hab _ ih =>
    cases h2 with
    | cons hbc htl => exact .cons (le_trans hab hbc) (ih htl)

theorem PLe.antisymm {a b : List Rat} (h1 : PLe a b) (h2 : PLe b a) : a = b := by
  induction h1 with
  | nil => rfl
  | cons hab _ ih =>
    cases h2 with
    | cons hba htl => rw [le_antisymm hab hba, ih htl]

/-! ## `zipWith f`, entry by entry

The facts about `zipWith min` and `zipWith max` below are instances of three statements about a binary operation
`f` and a relation `R`; for `max` the relation is `≥`. -/

theorem forall₂_zipWith_left {R : Rat → Rat → Prop} {f : Rat → Rat → Rat} (hf : ∀ x y, R (f x y) x) :
    ∀ (a b : List Rat), a.length = b.length → List.Forall₂ R (List.zipWith f a b) a
  | [], _, _ => by simp
  | _ :: _, [], h => by simp at h
  | x :: t, y :: u, h => .cons (hf x y) (forall₂_zipWith_left hf t u (by simpa using h))

theorem forall₂_zipWith_right {R : Rat → Rat → Prop} {f : Rat → Rat → Rat} (hf : ∀ x y, R (f x y) y)
    (a b : List Rat) (h : a.length = b.length) : List.Forall₂ R (List.zipWith f a b) b := by
  rw [List.zipWith_comm]
  exact forall₂_zipWith_left (fun y x => hf x y) b a h.symm

theorem forall₂_zipWith {R : Rat → Rat → Prop} {f : Rat → Rat → Rat} (hf : ∀ z x y, R z x → R z y → R z (f x y))
    {c a b : List Rat} (h1 : List.Forall₂ R c a) (h2 : List.Forall₂ R c b) :
    List.Forall₂ R c (List.zipWith f a b) := by
  induction h1 generalizing b with
  | nil => cases h2; exact .nil
  | cons hca _ ih =>
    cases h2 with
    | cons hcb htl => exact .cons (hf _ _ _ hca hcb) (ih htl)

theorem zipWith_min_le_left (a b : List Rat) (h : a.length = b.length) : PLe (List.zipWith min a b) a :=
  forall₂_zipWith_left min_le_left a b h

theorem zipWith_min_le_right (a b : List Rat) (h : a.length = b.length) : PLe (List.zipWith min a b) b :=
  forall₂_zipWith_right min_le_right a b h

theorem le_zipWith_min {c a b : List Rat} (h1 : PLe c a) (h2 : PLe c b) : PLe c (List.zipWith min a b) :=
  forall₂_zipWith (fun _ _ _ => le_min) h1 h2

theorem left_le_zipWith_max (a b : List Rat) (h : a.length = b.length) : PLe a (List.zipWith max a b) :=
  (forall₂_zipWith_left (R := (· ≥ ·)) le_max_left a b h).flip

theorem right_le_zipWith_max (a b : List Rat) (h : a.length = b.length) : PLe b (List.zipWith max a b) :=
  (forall₂_zipWith_right (R := (· ≥ ·)) le_max_right a b h).flip

theorem zipWith_max_le {a b c : List Rat} (h1 : PLe a c) (h2 : PLe b c) : PLe (List.zipWith max a b) c :=
  (forall₂_zipWith (R := (· ≥ ·)) (fun _ _ _ => max_le) h1.flip h2.flip).flip

theorem zipWith_min_self (a : List Rat) : List.zipWith min a a = a := by
  simp [List.zipWith_self]

theorem zipWith_max_self (a : List Rat) : List.zipWith max a a = a := by
  simp [List.zipWith_self]

/-! ## `env` and `imp` on well-formed boxes -/

structure WF (n : Nat) (p : PB) : Prop where
  llen : p.left.length = n
  rlen : p.right.length = n
  lsorted : p.left.Pairwise (· ≤ ·)
  rsorted : p.right.Pairwise (· ≤ ·)
  le : PLe p.left p.right

theorem WF.llen_eq {n : Nat} {X Y : PB} (hX : WF n X) (hY : WF n Y) : X.left.length = Y.left.length :=
  hX.llen.trans hY.llen.symm

theorem WF.rlen_eq {n : Nat} {X Y : PB} (hX : WF n X) (hY : WF n Y) : X.right.length = Y.right.length :=
  hX.rlen.trans hY.rlen.symm

/-- `Sub P Q` : `Q` contains `P` (`P ⊑ Q`): `Q.left ≤ P.left` and `P.right ≤ Q.right` at every step -/
def Sub (P Q : PB) : Prop := PLe Q.left P.left ∧ PLe P.right Q.right

theorem Sub.rfl (P : PB) : Sub P P := ⟨PLe.rfl _, PLe.rfl _⟩
theorem Sub.trans {P Q R : PB} (h1 : Sub P Q) (h2 : Sub Q R) : Sub P R :=
  ⟨PLe.trans h2.1 h1.1, PLe.trans h1.2 h2.2⟩
theorem Sub.antisymm {P Q : PB} (h1 : Sub P Q) (h2 : Sub Q P) : P = Q := by
  cases P; cases Q
  simp only [Sub] at h1 h2
  rw [PLe.antisymm h2.1 h1.1, PLe.antisymm h1.2 h2.2]

/-- a selection: one value per step, inside the step -/
def Sel (P : PB) (z : List Rat) : Prop := PLe P.left z ∧ PLe z P.right

def envSpec (X Y : PB) : PB := ⟨List.zipWith min X.left Y.left, List.zipWith max X.right Y.right⟩
def impSpec (X Y : PB) : PB := ⟨List.zipWith max X.left Y.left, List.zipWith min X.right Y.right⟩
/-- every step of `X` meets the same step of `Y` -/
def Compat (X Y : PB) : Prop := PLe (List.zipWith max X.left Y.left) (List.zipWith min X.right Y.right)

theorem envSpec_wf {n : Nat} {X Y : PB} (hX : WF n X) (hY : WF n Y) : WF n (envSpec X Y) where
  llen := by simp [envSpec, hX.llen, hY.llen]
  rlen := by simp [envSpec, hX.rlen, hY.rlen]
  lsorted := zipWith_sorted min (fun _ _ _ _ => min_le_min) _ _ hX.lsorted hY.lsorted
  rsorted := zipWith_sorted max (fun _ _ _ _ => max_le_max) _ _ hX.rsorted hY.rsorted
  le := PLe.trans (zipWith_min_le_left _ _ (hX.llen_eq hY))
    (PLe.trans hX.le (left_le_zipWith_max _ _ (hX.rlen_eq hY)))

theorem env_ok {n : Nat} {X Y : PB} (hX : WF n X) (hY : WF n Y) : env n X Y = .ok (envSpec X Y) := by
  have h := envSpec_wf hX hY
  exact mk_ok_of_le n false _ _ h.llen h.rlen h.lsorted h.rsorted h.le

theorem impSpec_wf {n : Nat} {X Y : PB} (hX : WF n X) (hY : WF n Y) (hc : Compat X Y) : WF n (impSpec X Y) where
  llen := by simp [impSpec, hX.llen, hY.llen]
  rlen := by simp [impSpec, hX.rlen, hY.rlen]
  lsorted := zipWith_sorted max (fun _ _ _ _ => max_le_max) _ _ hX.lsorted hY.lsorted
  rsorted := zipWith_sorted min (fun _ _ _ _ => min_le_min) _ _ hX.rsorted hY.rsorted
  le := hc

theorem imp_guard_iff {n : Nat} {X Y : PB} (hX : WF n X) (hY : WF n Y) :
    ((List.zipWith max X.left Y.left).zip (List.zipWith min X.right Y.right)).any (fun p => decide (p.1 > p.2)) = false
      ↔ Compat X Y :=
  cross_false_iff (by simp [hX.llen, hY.llen, hX.rlen, hY.rlen])

theorem imp_ok {n : Nat} {X Y : PB} (hX : WF n X) (hY : WF n Y) (hc : Compat X Y) :
    imp n X Y = .ok (impSpec X Y) := by
  have h := impSpec_wf hX hY hc
  unfold imp
  simp only [(imp_guard_iff hX hY).mpr hc]
  exact mk_ok_of_le n true _ _ h.llen h.rlen h.lsorted h.rsorted h.le

theorem imp_err {n : Nat} {X Y : PB} (hX : WF n X) (hY : WF n Y) (hc : ¬ Compat X Y) :
    imp n X Y = .error .Other := by
  have hg := mt (imp_guard_iff hX hY).mp hc
  unfold imp
  rw [if_pos (eq_true_of_ne_false hg)]

theorem compat_iff_common {n : Nat} {X Y : PB} (hX : WF n X) (hY : WF n Y) :
    Compat X Y ↔ ∃ z, Sel X z ∧ Sel Y z := by
  constructor
  · intro hc
    refine ⟨List.zipWith max X.left Y.left, ⟨left_le_zipWith_max _ _ (hX.llen_eq hY), ?_⟩,
      ⟨right_le_zipWith_max _ _ (hX.llen_eq hY), ?_⟩⟩
    · exact PLe.trans hc (zipWith_min_le_left _ _ (hX.rlen_eq hY))
    · exact PLe.trans hc (zipWith_min_le_right _ _ (hX.rlen_eq hY))
  · rintro ⟨z, ⟨h1, h2⟩, ⟨h3, h4⟩⟩
    exact PLe.trans (zipWith_max_le h1 h3) (le_zipWith_min h2 h4)

theorem sub_envSpec_left {n : Nat} {X Y : PB} (hX : WF n X) (hY : WF n Y) : Sub X (envSpec X Y) :=
  ⟨zipWith_min_le_left _ _ (hX.llen_eq hY), left_le_zipWith_max _ _ (hX.rlen_eq hY)⟩
theorem sub_envSpec_right {n : Nat} {X Y : PB} (hX : WF n X) (hY : WF n Y) : Sub Y (envSpec X Y) :=
  ⟨zipWith_min_le_right _ _ (hX.llen_eq hY), right_le_zipWith_max _ _ (hX.rlen_eq hY)⟩
theorem envSpec_sub {X Y Q : PB} (h1 : Sub X Q) (h2 : Sub Y Q) : Sub (envSpec X Y) Q :=
  ⟨le_zipWith_min h1.1 h2.1, zipWith_max_le h1.2 h2.2⟩
theorem impSpec_sub_left {n : Nat} {X Y : PB} (hX : WF n X) (hY : WF n Y) : Sub (impSpec X Y) X :=
  ⟨left_le_zipWith_max _ _ (hX.llen_eq hY), zipWith_min_le_left _ _ (hX.rlen_eq hY)⟩
theorem impSpec_sub_right {n : Nat} {X Y : PB} (hX : WF n X) (hY : WF n Y) : Sub (impSpec X Y) Y :=
  ⟨right_le_zipWith_max _ _ (hX.llen_eq hY), zipWith_min_le_right _ _ (hX.rlen_eq hY)⟩
theorem sub_impSpec {X Y Q : PB} (h1 : Sub Q X) (h2 : Sub Q Y) : Sub Q (impSpec X Y) :=
  ⟨zipWith_max_le h1.1 h2.1, le_zipWith_min h1.2 h2.2⟩

theorem sel_of_sub {P Q : PB} {z : List Rat} (h : Sub P Q) (hz : Sel P z) : Sel Q z :=
  ⟨PLe.trans h.1 hz.1, PLe.trans hz.2 h.2⟩

theorem sel_impSpec {X Y : PB} {z : List Rat} (h1 : Sel X z) (h2 : Sel Y z) : Sel (impSpec X Y) z :=
  ⟨zipWith_max_le h1.1 h2.1, le_zipWith_min h1.2 h2.2⟩

/-! ## folding a join

`envelope`, `imposition` and the interval hull are left folds `reduce(f, xs)` of a partial binary operation `f`
that, on a carrier `C` closed under it, returns a least upper bound `j a b` for some order.  Such a fold returns
the least upper bound of the whole family, so any listing order gives the same result. -/

section Fold
variable {α : Type}

def ListLub (le : α → α → Prop) (l : List α) (e : α) : Prop :=
  (∀ x ∈ l, le x e) ∧ ∀ q, (∀ x ∈ l, le x q) → le e q

theorem ListLub.perm {le : α → α → Prop} {l₁ l₂ : List α} {e : α} (hp : l₁.Perm l₂) (h : ListLub le l₁ e) :
    ListLub le l₂ e :=
  ⟨fun x hx => h.1 x (hp.mem_iff.mpr hx), fun q hq => h.2 q fun x hx => hq x (hp.mem_iff.mp hx)⟩

theorem ListLub.unique {le : α → α → Prop} (anti : ∀ {a b}, le a b → le b a → a = b) {l : List α} {e₁ e₂ : α}
    (h1 : ListLub le l e₁) (h2 : ListLub le l e₂) : e₁ = e₂ :=
  anti (h1.2 e₂ h2.1) (h2.2 e₁ h1.1)

theorem foldlM_eq_foldl {C : α → Prop} {f : α → α → Except Err α} {j : α → α → α}
    (hC : ∀ a b, C a → C b → C (j a b)) (hf : ∀ a b, C a → C b → f a b = .ok (j a b)) :
    ∀ (ps : List α) (p : α), C p → (∀ x ∈ ps, C x) → ps.foldlM f p = .ok (ps.foldl j p) ∧ C (ps.foldl j p)
  | [], p, hp, _ => ⟨rfl, hp⟩
  | q :: qs, p, hp, hps => by
    obtain ⟨hq, hqs⟩ := List.forall_mem_cons.mp hps
    rw [List.foldlM_cons, hf p q hp hq]
    exact foldlM_eq_foldl hC hf qs (j p q) (hC p q hp hq) hqs

theorem foldl_lub {le : α → α → Prop} {C : α → Prop} {j : α → α → α}
    (refl : ∀ a, le a a) (trans : ∀ {a b c}, le a b → le b c → le a c) (hC : ∀ a b, C a → C b → C (j a b))
    (hl : ∀ a b, C a → C b → le a (j a b)) (hr : ∀ a b, C a → C b → le b (j a b))
    (hj : ∀ a b q, le a q → le b q → le (j a b) q) :
    ∀ (ps : List α) (p : α), C p → (∀ x ∈ ps, C x) → ListLub le (p :: ps) (ps.foldl j p)
  | [], p, _, _ => ⟨by simpa using refl p, fun q hq => hq p (by simp)⟩
  | q :: qs, p, hp, hps => by
    obtain ⟨hq, hqs⟩ := List.forall_mem_cons.mp hps
    obtain ⟨u, m⟩ := foldl_lub refl trans hC hl hr hj qs (j p q) (hC p q hp hq) hqs
    obtain ⟨u0, us⟩ := List.forall_mem_cons.mp u
    refine ⟨List.forall_mem_cons.mpr ⟨trans (hl p q hp hq) u0, List.forall_mem_cons.mpr ⟨trans (hr p q hp hq) u0, us⟩⟩,
      fun Q hQ => m Q ?_⟩
    obtain ⟨hp', hQ'⟩ := List.forall_mem_cons.mp hQ
    obtain ⟨hq', hqs'⟩ := List.forall_mem_cons.mp hQ'
    exact List.forall_mem_cons.mpr ⟨hj p q Q hp' hq', hqs'⟩

theorem foldl_attained {β : Type} (g : α → β) {j : α → α → α} (hj : ∀ a b, g (j a b) = g a ∨ g (j a b) = g b) :
    ∀ (ps : List α) (p : α), ∃ y ∈ p :: ps, g y = g (ps.foldl j p)
  | [], p => ⟨p, by simp, rfl⟩
  | q :: qs, p => by
    obtain ⟨y, hy, e⟩ := foldl_attained g hj qs (j p q)
    rcases List.mem_cons.mp hy with rfl | hy
    · rcases hj p q with h | h
      · exact ⟨p, by simp, by rw [← h, e]; rfl⟩
      · exact ⟨q, by simp, by rw [← h, e]; rfl⟩
    · exact ⟨y, by simp [hy], e⟩

theorem reduceM_perm {f : α → α → Except Err α} {l₁ l₂ : List α} (hp : l₁.Perm l₂)
    (h : l₁ ≠ [] → l₂ ≠ [] → reduceM f l₁ = reduceM f l₂) : reduceM f l₁ = reduceM f l₂ := by
  by_cases hne : l₁ = []
  · subst hne; rw [List.nil_perm.mp hp]
  · exact h hne fun h2 => hne (by subst h2; exact List.perm_nil.mp hp)

end Fold

/-! ## the folds of `env` and `imp` -/

theorem foldlM_env_eq {n : Nat} (ps : List PB) (p : PB) (hp : WF n p) (hps : ∀ P ∈ ps, WF n P) :
    ps.foldlM (env n) p = .ok (ps.foldl envSpec p) ∧ WF n (ps.foldl envSpec p) :=
  foldlM_eq_foldl (fun _ _ => envSpec_wf) (fun _ _ => env_ok) ps p hp hps

theorem foldEnv_spec {n : Nat} (l : List PB) (hne : l ≠ []) (hl : ∀ P ∈ l, WF n P) :
    ∃ E, foldEnv n l = .ok E ∧ WF n E ∧ ListLub Sub l E := by
  cases l with
  | nil => exact absurd rfl hne
  | cons p ps =>
    obtain ⟨hp, hps⟩ := List.forall_mem_cons.mp hl
    obtain ⟨h1, h2⟩ := foldlM_env_eq ps p hp hps
    exact ⟨_, h1, h2, foldl_lub Sub.rfl Sub.trans (fun _ _ => envSpec_wf) (fun _ _ => sub_envSpec_left)
      (fun _ _ => sub_envSpec_right) (fun _ _ _ => envSpec_sub) ps p hp hps⟩

theorem foldEnv_perm {n : Nat} {l₁ l₂ : List PB} (hp : l₁.Perm l₂) (hl : ∀ P ∈ l₁, WF n P) :
    foldEnv n l₁ = foldEnv n l₂ := by
  refine reduceM_perm hp fun hne hne2 => ?_
  obtain ⟨E₁, e1, -, b1⟩ := foldEnv_spec l₁ hne hl
  obtain ⟨E₂, e2, -, b2⟩ := foldEnv_spec l₂ hne2 (fun P hP => hl P (hp.mem_iff.mpr hP))
  exact e1.trans (((b1.perm hp).unique Sub.antisymm b2) ▸ e2.symm)

def CommonSel (l : List PB) (z : List Rat) : Prop := ∀ P ∈ l, Sel P z

/-- on the well-formed boxes around one selection `z` the imposition is total and is the greatest lower bound:
their fold is the greatest box inside all of them, and still contains `z` -/
theorem foldlM_imp_ok {n : Nat} (ps : List PB) (p : PB) (hp : WF n p) (hps : ∀ P ∈ ps, WF n P)
    (z : List Rat) (hz : CommonSel (p :: ps) z) :
    ps.foldlM (imp n) p = .ok (ps.foldl impSpec p) ∧ WF n (ps.foldl impSpec p) ∧ Sel (ps.foldl impSpec p) z ∧
      ListLub (fun P Q => Sub Q P) (p :: ps) (ps.foldl impSpec p) := by
  have compat : ∀ a b : PB, WF n a ∧ Sel a z → WF n b ∧ Sel b z → Compat a b :=
    fun a b ha hb => (compat_iff_common ha.1 hb.1).mpr ⟨z, ha.2, hb.2⟩
  have hC : ∀ a b : PB, WF n a ∧ Sel a z → WF n b ∧ Sel b z → WF n (impSpec a b) ∧ Sel (impSpec a b) z :=
    fun a b ha hb => ⟨impSpec_wf ha.1 hb.1 (compat a b ha hb), sel_impSpec ha.2 hb.2⟩
  obtain ⟨hzp, hzs⟩ := List.forall_mem_cons.mp hz
  have hps' : ∀ P ∈ ps, WF n P ∧ Sel P z := fun P hP => ⟨hps P hP, hzs P hP⟩
  obtain ⟨e, w, s⟩ := foldlM_eq_foldl hC (fun a b ha hb => imp_ok ha.1 hb.1 (compat a b ha hb)) ps p ⟨hp, hzp⟩ hps'
  exact ⟨e, w, s, foldl_lub (le := fun P Q => Sub Q P) Sub.rfl (fun h1 h2 => Sub.trans h2 h1) hC
    (fun _ _ ha hb => impSpec_sub_left ha.1 hb.1) (fun _ _ ha hb => impSpec_sub_right ha.1 hb.1)
    (fun _ _ _ => sub_impSpec) ps p ⟨hp, hzp⟩ hps'⟩

theorem foldlM_imp_err {n : Nat} (ps : List PB) (p : PB) (hp : WF n p) (hps : ∀ P ∈ ps, WF n P)
    (hno : ¬ ∃ z, CommonSel (p :: ps) z) :
    ps.foldlM (imp n) p = .error .Other := by
  induction ps generalizing p with
  | nil => exact absurd ⟨p.left, by simpa [CommonSel] using ⟨PLe.rfl _, hp.le⟩⟩ hno
  | cons q qs ih =>
    obtain ⟨hq, hqs⟩ := List.forall_mem_cons.mp hps
    by_cases hc : Compat p q
    · rw [List.foldlM_cons, imp_ok hp hq hc]
      refine ih _ (impSpec_wf hp hq hc) hqs fun ⟨z, hz⟩ => hno ⟨z, ?_⟩
      -- a selection of `impSpec p q` is one of `p` and of `q`
      obtain ⟨h0, hzs⟩ := List.forall_mem_cons.mp hz
      exact List.forall_mem_cons.mpr ⟨sel_of_sub (impSpec_sub_left hp hq) h0,
        List.forall_mem_cons.mpr ⟨sel_of_sub (impSpec_sub_right hp hq) h0, hzs⟩⟩
    · rw [List.foldlM_cons, imp_err hp hq hc]
      rfl

theorem foldImp_ok {n : Nat} (l : List PB) (hne : l ≠ []) (hl : ∀ P ∈ l, WF n P)
    (z : List Rat) (hz : CommonSel l z) :
    ∃ E, foldImp n l = .ok E ∧ WF n E ∧ Sel E z ∧ ListLub (fun P Q => Sub Q P) l E := by
  cases l with
  | nil => exact absurd rfl hne
  | cons p ps => exact ⟨_, foldlM_imp_ok ps p (hl p (by simp)) (fun P hP => hl P (by simp [hP])) z hz⟩

theorem foldImp_err {n : Nat} (l : List PB) (hne : l ≠ []) (hl : ∀ P ∈ l, WF n P)
    (hno : ¬ ∃ z, CommonSel l z) : foldImp n l = .error .Other := by
  cases l with
  | nil => exact absurd rfl hne
  | cons p ps => exact foldlM_imp_err ps p (hl p (by simp)) (fun P hP => hl P (by simp [hP])) hno

theorem foldImp_perm {n : Nat} {l₁ l₂ : List PB} (hp : l₁.Perm l₂) (hl : ∀ P ∈ l₁, WF n P) :
    foldImp n l₁ = foldImp n l₂ := by
  refine reduceM_perm hp fun hne hne2 => ?_
  have hl2 : ∀ P ∈ l₂, WF n P := fun P hP => hl P (hp.mem_iff.mpr hP)
  by_cases hc : ∃ z, CommonSel l₁ z
  · obtain ⟨z, hz⟩ := hc
    obtain ⟨E₁, e1, -, -, b1⟩ := foldImp_ok l₁ hne hl z hz
    obtain ⟨E₂, e2, -, -, b2⟩ := foldImp_ok l₂ hne2 hl2 z (fun P hP => hz P (hp.mem_iff.mpr hP))
    exact e1.trans (((b1.perm hp).unique (fun h1 h2 => Sub.antisymm h2 h1) b2) ▸ e2.symm)
  · have hc2 : ¬ ∃ z, CommonSel l₂ z := fun ⟨z, hz⟩ => hc ⟨z, fun P hP => hz P (hp.mem_iff.mp hP)⟩
    exact (foldImp_err l₁ hne hl hc).trans (foldImp_err l₂ hne2 hl2 hc2).symm

/-! ## interval hull -/

theorem hull2_ok (x y : Rat × Rat) (hx : x.1 ≤ x.2) :
    hull2 x y = .ok (min x.1 y.1, max x.2 y.2) := by
  unfold hull2
  have : min x.1 y.1 ≤ max x.2 y.2 := le_trans (min_le_left _ _) (le_trans hx (le_max_left _ _))
  simp [this]

theorem hull_spec (l : List (Rat × Rat)) (hne : l ≠ []) (hl : ∀ y ∈ l, y.1 ≤ y.2) :
    ∃ a b, reduceM hull2 l = .ok (a, b) ∧ a ≤ b ∧ (∀ y ∈ l, a ≤ y.1 ∧ y.2 ≤ b) ∧
      (∃ y ∈ l, y.1 = a) ∧ (∃ y ∈ l, y.2 = b) := by
  cases l with
  | nil => exact absurd rfl hne
  | cons x xs =>
    obtain ⟨hx, hxs⟩ := List.forall_mem_cons.mp hl
    let j : Rat × Rat → Rat × Rat → Rat × Rat := fun x y => (min x.1 y.1, max x.2 y.2)
    have hC : ∀ a b : Rat × Rat, a.1 ≤ a.2 → b.1 ≤ b.2 → (j a b).1 ≤ (j a b).2 :=
      fun a b ha _ => le_trans (min_le_left _ _) (le_trans ha (le_max_left _ _))
    obtain ⟨e, he⟩ := foldlM_eq_foldl hC (fun a b ha _ => hull2_ok a b ha) xs x hx hxs
    have bound := (foldl_lub (le := fun a b : Rat × Rat => b.1 ≤ a.1 ∧ a.2 ≤ b.2) (fun _ => ⟨le_refl _, le_refl _⟩)
      (fun h1 h2 => ⟨le_trans h2.1 h1.1, le_trans h1.2 h2.2⟩) hC
      (fun _ _ _ _ => ⟨min_le_left _ _, le_max_left _ _⟩) (fun _ _ _ _ => ⟨min_le_right _ _, le_max_right _ _⟩)
      (fun _ _ _ h1 h2 => ⟨le_min h1.1 h2.1, max_le h1.2 h2.2⟩) xs x hx hxs).1
    exact ⟨_, _, e, he, bound, foldl_attained Prod.fst (fun a b => min_choice a.1 b.1) xs x,
      foldl_attained Prod.snd (fun a b => max_choice a.2 b.2) xs x⟩

theorem hull_perm {l₁ l₂ : List (Rat × Rat)} (hp : l₁.Perm l₂) (hl : ∀ y ∈ l₁, y.1 ≤ y.2) :
    reduceM hull2 l₁ = reduceM hull2 l₂ := by
  refine reduceM_perm hp fun hne hne2 => ?_
  obtain ⟨a₁, b₁, e1, -, u1, ⟨ya1, hya1, ea1⟩, ⟨yb1, hyb1, eb1⟩⟩ := hull_spec l₁ hne hl
  obtain ⟨a₂, b₂, e2, -, u2, ⟨ya2, hya2, ea2⟩, ⟨yb2, hyb2, eb2⟩⟩ :=
    hull_spec l₂ hne2 (fun y hy => hl y (hp.mem_iff.mpr hy))
  -- each end is attained in one listing and a bound in the other
  have ha : a₁ = a₂ := le_antisymm
    (by rw [← ea2]; exact (u1 ya2 (hp.mem_iff.mpr hya2)).1)
    (by rw [← ea1]; exact (u2 ya1 (hp.mem_iff.mp hya1)).1)
  have hb : b₁ = b₂ := le_antisymm
    (by rw [← eb1]; exact (u2 yb1 (hp.mem_iff.mp hyb1)).2)
    (by rw [← eb2]; exact (u1 yb2 (hp.mem_iff.mpr hyb2)).2)
  rw [e1, e2, ha, hb]

/-! ## conversion -/

/-- operands inside the quantifier of the property -/
def Valid (n : Nat) : Opnd → Prop
  | .ivl lo hi => lo ≤ hi
  | .num _ => True
  | .box p => WF n p
  | .nonfinite => False
  | .other => False

/-- the p-box a valid operand stands for (`lo` / `hi` repeated for an interval, the value repeated
for a number); only used under `Valid` -/
def conv (n : Nat) : Opnd → PB
  | .ivl lo hi => ⟨List.replicate n lo, List.replicate n hi⟩
  | .num c => ⟨List.replicate n c, List.replicate n c⟩
  | .box p => p
  | .nonfinite => ⟨[], []⟩
  | .other => ⟨[], []⟩

theorem ple_replicate (n : Nat) {a b : Rat} (h : a ≤ b) : PLe (List.replicate n a) (List.replicate n b) := by
  induction n with
  | zero => exact .nil
  | succ k ih => exact .cons h ih

theorem const_wf (n : Nat) {a b : Rat} (h : a ≤ b) : WF n ⟨List.replicate n a, List.replicate n b⟩ :=
  ⟨by simp, by simp, List.pairwise_replicate.mpr (Or.inr (le_refl a)),
    List.pairwise_replicate.mpr (Or.inr (le_refl b)), ple_replicate n h⟩

theorem ivlToPbox_ok (n : Nat) {a b : Rat} (h : a ≤ b) :
    ivlToPbox n a b = .ok ⟨List.replicate n a, List.replicate n b⟩ := by
  have w := const_wf n h
  exact mk_ok_of_le n false _ _ w.llen w.rlen w.lsorted w.rsorted w.le

theorem convert_ok {n : Nat} {x : Opnd} (hv : Valid n x) : convert n x = .ok (conv n x) ∧ WF n (conv n x) := by
  cases x with
  | ivl lo hi => exact ⟨ivlToPbox_ok n hv, const_wf n hv⟩
  | num c => exact ⟨ivlToPbox_ok n (le_refl c), const_wf n (le_refl c)⟩
  | box p => exact ⟨rfl, hv⟩
  | nonfinite => exact absurd hv id
  | other => exact absurd hv id

theorem convertAll_ok {n : Nat} (l : List Opnd) (hv : ∀ x ∈ l, Valid n x) :
    convertAll n l = .ok (l.map (conv n)) := by
  induction l with
  | nil => rfl
  | cons x xs ih =>
    obtain ⟨hx, hxs⟩ := List.forall_mem_cons.mp hv
    simp only [convertAll, (convert_ok hx).1, ih hxs, List.map_cons, bind, Except.bind]

theorem conv_wf {n : Nat} (l : List Opnd) (hv : ∀ x ∈ l, Valid n x) : ∀ P ∈ l.map (conv n), WF n P :=
  List.forall_mem_map.mpr fun x hx => (convert_ok (hv x hx)).2

theorem all_isIvl_perm {l₁ l₂ : List Opnd} (hp : l₁.Perm l₂) : l₁.all Opnd.isIvl = l₂.all Opnd.isIvl := by
  rw [Bool.eq_iff_iff, List.all_eq_true, List.all_eq_true]
  exact ⟨fun h x hx => h x (hp.mem_iff.mpr hx), fun h x hx => h x (hp.mem_iff.mp hx)⟩

theorem mem_ivlEnds {l : List Opnd} {y : Rat × Rat} : y ∈ ivlEnds l ↔ Opnd.ivl y.1 y.2 ∈ l := by
  unfold ivlEnds
  rw [List.mem_filterMap]
  constructor
  · rintro ⟨x, hx, e⟩
    cases x <;> simp [Opnd.ends?] at e
    subst e; exact hx
  · intro h; exact ⟨_, h, rfl⟩

theorem ivlEnds_valid {n : Nat} {l : List Opnd} (hv : ∀ x ∈ l, Valid n x) : ∀ y ∈ ivlEnds l, y.1 ≤ y.2 :=
  fun _ hy => hv _ (mem_ivlEnds.mp hy)

theorem ivlEnds_ne_nil {l : List Opnd} (hne : l ≠ []) (hall : l.all Opnd.isIvl = true) : ivlEnds l ≠ [] := by
  cases l with
  | nil => exact absurd rfl hne
  | cons x xs =>
    rw [List.all_eq_true] at hall
    have hx := hall x (by simp)
    cases x <;> simp [Opnd.isIvl] at hx
    simp [ivlEnds, Opnd.ends?]

end Pun.EnvImp
