import Pun.Model.PBoxNum
import Pun.Lemmas.PBoxMk
import Mathlib.Tactic.Ring
/-!
# A well-formed p-box under a monotone or antitone map

A map that is increasing on the values of a well-formed p-box sends it to a well-formed p-box with
the same order of steps (`wf_map_mono`); a decreasing one exchanges the bounds and reverses the
order of the steps (`wf_map_anti`).  Sorting does nothing to the former lists and reverses the
latter, and the constructor accepts the former pair as it is and exchanges the latter: that is what
`numberOp`, `numberOpW` and `recip` return, step by step.
-/
namespace Pun.PBox.Num
open Pun Pun.PBox List

structure WF (n : Nat) (P : PB) : Prop where
  lenL : P.left.length = n
  lenR : P.right.length = n
  sortedL : P.left.Pairwise (· ≤ ·)
  sortedR : P.right.Pairwise (· ≤ ·)
  le : Forall₂ (· ≤ ·) P.left P.right

theorem map_sorted_of_mono (g : Rat → Rat) (p : Rat → Prop) (l : List Rat) (hp : ∀ x ∈ l, p x)
    (hg : ∀ x y, p x → p y → x ≤ y → g x ≤ g y) (s : l.Pairwise (· ≤ ·)) :
    (l.map g).Pairwise (· ≤ ·) := by
  rw [List.pairwise_map]
  exact s.imp_of_mem (fun ha hb h => hg _ _ (hp _ ha) (hp _ hb) h)

theorem map_rev_sorted_of_anti (g : Rat → Rat) (p : Rat → Prop) (l : List Rat) (hp : ∀ x ∈ l, p x)
    (hg : ∀ x y, p x → p y → x ≤ y → g y ≤ g x) (s : l.Pairwise (· ≤ ·)) :
    (l.reverse.map g).Pairwise (· ≤ ·) := by
  rw [List.pairwise_map, List.pairwise_reverse]
  exact s.imp_of_mem (fun ha hb h => hg _ _ (hp _ ha) (hp _ hb) h)

theorem sortR_map_mono (g : Rat → Rat) (p : Rat → Prop) (l : List Rat) (hp : ∀ x ∈ l, p x)
    (hg : ∀ x y, p x → p y → x ≤ y → g x ≤ g y) (s : l.Pairwise (· ≤ ·)) :
    sortR (l.map g) = l.map g :=
  sortR_of_sorted _ (map_sorted_of_mono g p l hp hg s)

theorem sortR_map_anti (g : Rat → Rat) (p : Rat → Prop) (l : List Rat) (hp : ∀ x ∈ l, p x)
    (hg : ∀ x y, p x → p y → x ≤ y → g y ≤ g x) (s : l.Pairwise (· ≤ ·)) :
    sortR (l.map g) = l.reverse.map g :=
  sortR_eq_of_perm _ _ ((List.reverse_perm l).map g).symm (map_rev_sorted_of_anti g p l hp hg s)

theorem forall₂_exists_rel {R : Rat → Rat → Prop} {l r : List Rat} (h : Forall₂ R l r) :
    (∀ x ∈ l, ∃ y ∈ r, R x y) ∧ (∀ y ∈ r, ∃ x ∈ l, R x y) := by
  induction h with
  | nil => simp
  | @cons a b s t hab _ ih =>
    constructor
    · intro x hx
      rcases List.mem_cons.mp hx with rfl | hx
      · exact ⟨b, List.mem_cons_self, hab⟩
      · obtain ⟨y, hy, hxy⟩ := ih.1 x hx
        exact ⟨y, List.mem_cons_of_mem _ hy, hxy⟩
    · intro y hy
      rcases List.mem_cons.mp hy with rfl | hy
      · exact ⟨a, List.mem_cons_self, hab⟩
      · obtain ⟨x, hx, hxy⟩ := ih.2 y hy
        exact ⟨x, List.mem_cons_of_mem _ hx, hxy⟩

theorem forall₂_map_of_mem {R S : Rat → Rat → Prop} (g : Rat → Rat) {l r : List Rat}
    (h : Forall₂ R l r) (hg : ∀ a ∈ l, ∀ b ∈ r, R a b → S (g a) (g b)) :
    Forall₂ S (l.map g) (r.map g) := by
  induction h with
  | nil => exact Forall₂.nil
  | @cons a b s t hab _ ih =>
    exact Forall₂.cons (hg a List.mem_cons_self b List.mem_cons_self hab)
      (ih (fun x hx y hy => hg x (List.mem_cons_of_mem _ hx) y (List.mem_cons_of_mem _ hy)))

theorem wf_map_mono (n : Nat) (P : PB) (h : WF n P) (g : Rat → Rat) (p : Rat → Prop)
    (hpl : ∀ x ∈ P.left, p x) (hpr : ∀ x ∈ P.right, p x)
    (hg : ∀ x y, p x → p y → x ≤ y → g x ≤ g y) : WF n ⟨P.left.map g, P.right.map g⟩ :=
  ⟨by simp [h.lenL], by simp [h.lenR], map_sorted_of_mono g p _ hpl hg h.sortedL,
    map_sorted_of_mono g p _ hpr hg h.sortedR,
    forall₂_map_of_mem g h.le (fun a ha b hb => hg a b (hpl a ha) (hpr b hb))⟩

theorem wf_map_anti (n : Nat) (P : PB) (h : WF n P) (g : Rat → Rat) (p : Rat → Prop)
    (hpl : ∀ x ∈ P.left, p x) (hpr : ∀ x ∈ P.right, p x)
    (hg : ∀ x y, p x → p y → x ≤ y → g y ≤ g x) :
    WF n ⟨P.right.reverse.map g, P.left.reverse.map g⟩ :=
  ⟨by simp [h.lenR], by simp [h.lenL], map_rev_sorted_of_anti g p _ hpr hg h.sortedR,
    map_rev_sorted_of_anti g p _ hpl hg h.sortedL,
    (forall₂_map_of_mem (S := fun u v => v ≤ u) g (forall₂_reverse_iff.mpr h.le)
      (fun a ha b hb => hg a b (hpl a (List.mem_reverse.mp ha)) (hpr b (List.mem_reverse.mp hb)))).flip⟩

/-- `pbox_number_ops` with supplied values of an increasing map -/
theorem numberOpW_mono (n : Nat) (P : PB) (h : WF n P) (g : Rat → Rat) (p : Rat → Prop)
    (hpl : ∀ x ∈ P.left, p x) (hpr : ∀ x ∈ P.right, p x)
    (hg : ∀ x y, p x → p y → x ≤ y → g x ≤ g y) :
    numberOpW n (P.left.map g) (P.right.map g) = .ok ⟨P.left.map g, P.right.map g⟩ := by
  unfold numberOpW
  rw [sortR_map_mono g p _ hpl hg h.sortedL, sortR_map_mono g p _ hpr hg h.sortedR]
  have w := wf_map_mono n P h g p hpl hpr hg
  exact mk_ok_of_le n true _ _ w.lenL w.lenR w.sortedL w.sortedR w.le

/-- `pbox_number_ops` with supplied values of a decreasing map: bounds exchanged, order reversed -/
theorem numberOpW_anti (n : Nat) (P : PB) (h : WF n P) (g : Rat → Rat) (p : Rat → Prop)
    (hpl : ∀ x ∈ P.left, p x) (hpr : ∀ x ∈ P.right, p x)
    (hg : ∀ x y, p x → p y → x ≤ y → g y ≤ g x) :
    numberOpW n (P.left.map g) (P.right.map g) =
      .ok ⟨P.right.reverse.map g, P.left.reverse.map g⟩ := by
  unfold numberOpW
  rw [sortR_map_anti g p _ hpl hg h.sortedL, sortR_map_anti g p _ hpr hg h.sortedR]
  have w := wf_map_anti n P h g p hpl hpr hg
  exact mk_list_ge n _ _ w.lenR w.lenL w.sortedR w.sortedL w.le

theorem numberOp_eq_W (n : Nat) (f : Rat → Rat → Rat) (P : PB) (c : Rat) :
    numberOp n f P c = numberOpW n (P.left.map (f · c)) (P.right.map (f · c)) := rfl

theorem numberOp_mono (n : Nat) (f : Rat → Rat → Rat) (P : PB) (c : Rat) (h : WF n P)
    (p : Rat → Prop) (hpl : ∀ x ∈ P.left, p x) (hpr : ∀ x ∈ P.right, p x)
    (hg : ∀ x y, p x → p y → x ≤ y → f x c ≤ f y c) :
    numberOp n f P c = .ok ⟨P.left.map (f · c), P.right.map (f · c)⟩ :=
  numberOpW_mono n P h (f · c) p hpl hpr hg

theorem numberOp_anti (n : Nat) (f : Rat → Rat → Rat) (P : PB) (c : Rat) (h : WF n P)
    (p : Rat → Prop) (hpl : ∀ x ∈ P.left, p x) (hpr : ∀ x ∈ P.right, p x)
    (hg : ∀ x y, p x → p y → x ≤ y → f y c ≤ f x c) :
    numberOp n f P c = .ok ⟨P.right.reverse.map (f · c), P.left.reverse.map (f · c)⟩ :=
  numberOpW_anti n P h (f · c) p hpl hpr hg

theorem numberOp_monotone (n : Nat) (f : Rat → Rat → Rat) (P : PB) (c : Rat) (h : WF n P)
    (hg : Monotone (f · c)) :
    numberOp n f P c = .ok ⟨P.left.map (f · c), P.right.map (f · c)⟩ :=
  numberOp_mono n f P c h (fun _ => True) (fun _ _ => trivial) (fun _ _ => trivial)
    (fun _ _ _ _ hxy => hg hxy)

theorem numberOp_antitone (n : Nat) (f : Rat → Rat → Rat) (P : PB) (c : Rat) (h : WF n P)
    (hg : Antitone (f · c)) :
    numberOp n f P c = .ok ⟨P.right.reverse.map (f · c), P.left.reverse.map (f · c)⟩ :=
  numberOp_anti n f P c h (fun _ => True) (fun _ _ => trivial) (fun _ _ => trivial)
    (fun _ _ _ _ hxy => hg hxy)

/-- `P.reciprocal()` when `1/x` is antitone on the values of `P` (all positive or all negative) -/
theorem recip_ok (n : Nat) (P : PB) (h : WF n P) (p : Rat → Prop)
    (hpl : ∀ x ∈ P.left, p x) (hpr : ∀ x ∈ P.right, p x) (hne : ∀ x, p x → x ≠ 0)
    (hg : ∀ x y : Rat, p x → p y → x ≤ y → 1 / y ≤ 1 / x) :
    recip n P = .ok ⟨P.right.reverse.map (1 / ·), P.left.reverse.map (1 / ·)⟩ := by
  have w := wf_map_anti n P h (1 / ·) p hpl hpr hg
  unfold recip
  rw [straddlesZero_false_of_anti P p hpl hpr hg,
    hasZero_false _ (fun x hx => hne x (hpl x hx)), hasZero_false _ (fun x hx => hne x (hpr x hx))]
  simp only [Bool.or_self, Bool.false_eq_true, if_false]
  exact mk_ok_of_le n false _ _ w.lenL w.lenR w.sortedL w.sortedR w.le

theorem recip_anti_pos : ∀ x y : Rat, 0 < x → 0 < y → x ≤ y → 1 / y ≤ 1 / x :=
  fun _ _ hx _ hxy => one_div_le_one_div_of_le hx hxy

theorem recip_anti_neg : ∀ x y : Rat, x < 0 → y < 0 → x ≤ y → 1 / y ≤ 1 / x :=
  fun _ _ hx hy hxy => (one_div_le_one_div_of_neg hy hx).mpr hxy

end Pun.PBox.Num
