import Pun.Lemmas.PBoxFrechet2
import Mathlib.Algebra.Order.Field.Basic
/-!
# Reciprocal of a p-box and the public Frechet quotient

* `recip_ok` — for a well-formed p-box of one sign with no zero bound, `reciprocal` returns
  `⟨1/flip(right), 1/flip(left)⟩` (`recipB`), well formed;
* `numberOp_mul_one` — `1 * P` (`pbox_number_ops(P, 1, mul)`) is the identity on well-formed boxes;
* `div_f_onesign_good` — `X.div(Y, 'f') = X.mul(1/Y, 'f')` for a one-signed dividend and a
  zero-free divisor: well formed, valid for every selection and coupling, attained entry by entry
  (selections `y ↦ (1/y)∘rev`, couplings `σ ↦ rev∘σ`); `div_f_valid` — any well-formed dividend: well formed and valid.
-/
namespace Pun.PBox
open Pun Finset

/-- divisor support excludes zero -/
def ZeroFree (p : PB) : Prop := (∀ v ∈ p.left, 0 < v) ∨ (∀ v ∈ p.right, v < 0)

theorem antiInv_recip_pos : AntiInv (fun v : Rat => 1 / v) (fun v => 0 < v) :=
  ⟨fun _ ha => one_div_pos.mpr ha,
   fun _ _ ha _ hab => one_div_le_one_div_of_le ha hab,
   fun a _ => one_div_one_div a,
   fun _ _ _ ha _ hab _ => lt_of_lt_of_le ha hab⟩

theorem antiInv_recip_neg : AntiInv (fun v : Rat => 1 / v) (fun v => v < 0) :=
  ⟨fun _ ha => one_div_neg.mpr ha,
   fun _ _ ha hb hab => (one_div_le_one_div_of_neg hb ha).mpr hab,
   fun a _ => one_div_one_div a,
   fun _ _ _ _ hc _ hbc => lt_of_le_of_lt hbc hc⟩

theorem zeroFree_inS (n : Nat) (Y : PB) (hY : WF n Y) (z : ZeroFree Y) :
    InS (fun v => 0 < v) Y ∨ InS (fun v => v < 0) Y := by
  rcases z with z | z
  · exact Or.inl ⟨z, hY.right_of_left (0 < ·) (fun a b hab ha => lt_of_lt_of_le ha hab) z⟩
  · exact Or.inr ⟨hY.left_of_right (· < 0) (fun a b hab hb => lt_of_le_of_lt hab hb) z, z⟩

theorem recip_ok_of_inS (S : Rat → Prop) (h : AntiInv (fun v : Rat => 1 / v) S) (hS0 : ∀ v, S v → v ≠ 0)
    (n : Nat) (Y : PB) (hY : WF n Y) (hS : InS S Y) :
    recip n Y = .ok (recipB Y) ∧ WF n (recipB Y) ∧ InS S (recipB Y) :=
  ⟨Num.recip_ok n Y (wf_num n Y hY) S hS.1 hS.2 hS0 h.anti, flipB_wf _ _ h n Y hY hS⟩

theorem recip_ok (n : Nat) (Y : PB) (hY : WF n Y) (z : ZeroFree Y) :
    recip n Y = .ok (recipB Y) ∧ WF n (recipB Y) ∧ ZeroFree (recipB Y) ∧ OneSign (recipB Y) := by
  rcases zeroFree_inS n Y hY z with hS | hS
  · obtain ⟨e, w, hS'⟩ := recip_ok_of_inS _ antiInv_recip_pos (fun v hv => ne_of_gt hv) n Y hY hS
    exact ⟨e, w, Or.inl hS'.1, Or.inl ⟨fun v hv => le_of_lt (hS'.1 v hv), fun v hv => le_of_lt (hS'.2 v hv)⟩⟩
  · obtain ⟨e, w, hS'⟩ := recip_ok_of_inS _ antiInv_recip_neg (fun v hv => ne_of_lt hv) n Y hY hS
    exact ⟨e, w, Or.inr hS'.2, Or.inr ⟨fun v hv => le_of_lt (hS'.1 v hv), fun v hv => le_of_lt (hS'.2 v hv)⟩⟩

theorem hasZero_of_mem (l : List Rat) (h : (0 : Rat) ∈ l) : hasZero l = true := by
  unfold hasZero
  rw [List.any_eq_true]
  exact ⟨0, h, by simp⟩

/-- a zero bound makes `reciprocal` fail (`ZeroDivisionError` when the support straddles zero;
otherwise numpy would produce `inf`, not representable) -/
theorem recip_zero_raises (n : Nat) (Y : PB) (h : (0 : Rat) ∈ Y.left ∨ (0 : Rat) ∈ Y.right) :
    ∃ e, recip n Y = .error e := by
  unfold recip
  by_cases hs : straddlesZero Y = true
  · exact ⟨.ZeroDivision, by simp [hs]⟩
  · refine ⟨.Value, ?_⟩
    rcases h with h | h
    · simp [hs, hasZero_of_mem _ h]
    · simp [hs, hasZero_of_mem _ h]

theorem numberOp_mul_one (n : Nat) (P : PB) (hP : WF n P) : numberOp n (· * ·) P 1 = .ok P := by
  unfold numberOp
  have e1 : P.left.map (fun x => x * 1) = P.left := by simp
  have e2 : P.right.map (fun x => x * 1) = P.right := by simp
  rw [e1, e2, sortR_of_sorted _ hP.lsorted, sortR_of_sorted _ hP.rsorted]
  exact mk_list_ok n _ _ hP.llen hP.rlen hP.lsorted hP.rsorted (fun i h => hP.le i (by have := hP.llen; omega))

theorem div_eq_mul_recip (n : Nat) (d : Dep) (X Y : PB) (hY : WF n Y) (z : ZeroFree Y) :
    div n d X Y = mul n (swapPO d) X (recipB Y) := by
  obtain ⟨e, w, -, -⟩ := recip_ok n Y hY z
  unfold div
  simp only [e, bind, Except.bind, numberOp_mul_one n _ w]

theorem div_f_onesign_good (n : Nat) (X Y : PB) (hX : WF n X) (hY : WF n Y)
    (sX : OneSign X) (z : ZeroFree Y) :
    ∃ R, div n .f X Y = .ok R ∧ WF n R ∧ Good n (· / ·) X Y R hX.toWFS hY.toWFS := by
  obtain ⟨e, w, -, sR⟩ := recip_ok n Y hY z
  obtain ⟨R, eR, wR, g⟩ := mul_f_onesign_good n X (recipB Y) hX w sX sR
  refine ⟨R, ?_, wR, ?_⟩
  · rw [div_eq_mul_recip n .f X Y hY z]; exact eR
  · rcases zeroFree_inS n Y hY z with hS | hS
    · exact (g.flipY _ _ antiInv_recip_pos hY.toWFS hS w.toWFS).congr (fun a b => mul_one_div a b)
    · exact (g.flipY _ _ antiInv_recip_neg hY.toWFS hS w.toWFS).congr (fun a b => mul_one_div a b)

theorem div_f_valid (n : Nat) (X Y : PB) (hX : WF n X) (hY : WF n Y) (z : ZeroFree Y) :
    ∃ R, div n .f X Y = .ok R ∧ WF n R ∧ AllValid n (· / ·) X Y R hX.toWFS hY.toWFS := by
  obtain ⟨-, w, -, -⟩ := recip_ok n Y hY z
  rw [div_eq_mul_recip n .f X Y hY z]
  obtain ⟨R, e, wR, v⟩ := mul_f_valid n X (recipB Y) hX w
  refine ⟨R, e, wR, ?_⟩
  rcases zeroFree_inS n Y hY z with hS | hS
  · exact (v.flipY _ _ antiInv_recip_pos hY.toWFS hS w.toWFS).congr (fun a b => mul_one_div a b)
  · exact (v.flipY _ _ antiInv_recip_neg hY.toWFS hS w.toWFS).congr (fun a b => mul_one_div a b)

end Pun.PBox
