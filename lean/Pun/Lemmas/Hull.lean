import Pun.Model.Arith
import Mathlib.Algebra.Order.Field.Rat
import Mathlib.Algebra.Order.Field.Basic
/-!
The corner hull `(min4 (a*c) (a*d) (b*c) (b*d), max4 (a*c) (a*d) (b*c) (b*d))` of two intervals
`[a, b]`, `[c, d]`: it encloses every product (`mul_hull`), its endpoints are corners
(`min4_mem`, `max4_mem`), the signs of the operands say which corners (`hull_*`), and a table that
follows the resulting sign rules returns it (`hull_of_sign_rules`).  Quotients go through the
reciprocal interval (`inv_mem`).
-/
namespace Pun.Arith

theorem min4_eq {p q r s l : Rat} (hmem : l = p ∨ l = q ∨ l = r ∨ l = s)
    (h1 : l ≤ p) (h2 : l ≤ q) (h3 : l ≤ r) (h4 : l ≤ s) : min4 p q r s = l := by
  refine le_antisymm ?_ (le_min (le_min h1 h2) (le_min h3 h4))
  rcases hmem with rfl | rfl | rfl | rfl
  · exact (min_le_left _ _).trans (min_le_left _ _)
  · exact (min_le_left _ _).trans (min_le_right _ _)
  · exact (min_le_right _ _).trans (min_le_left _ _)
  · exact (min_le_right _ _).trans (min_le_right _ _)

theorem max4_eq {p q r s l : Rat} (hmem : l = p ∨ l = q ∨ l = r ∨ l = s)
    (h1 : p ≤ l) (h2 : q ≤ l) (h3 : r ≤ l) (h4 : s ≤ l) : max4 p q r s = l := by
  refine le_antisymm (max_le (max_le h1 h2) (max_le h3 h4)) ?_
  rcases hmem with rfl | rfl | rfl | rfl
  · exact (le_max_left _ _).trans (le_max_left _ _)
  · exact (le_max_right _ _).trans (le_max_left _ _)
  · exact (le_max_left _ _).trans (le_max_right _ _)
  · exact (le_max_right _ _).trans (le_max_right _ _)

theorem min4_mem (p q r s : Rat) :
    min4 p q r s = p ∨ min4 p q r s = q ∨ min4 p q r s = r ∨ min4 p q r s = s := by
  unfold min4
  rcases min_choice (min p q) (min r s) with h | h <;> rw [h]
  · exact (min_choice p q).imp_right .inl
  · exact .inr (.inr (min_choice r s))

theorem max4_mem (p q r s : Rat) :
    max4 p q r s = p ∨ max4 p q r s = q ∨ max4 p q r s = r ∨ max4 p q r s = s := by
  unfold max4
  rcases max_choice (max p q) (max r s) with h | h <;> rw [h]
  · exact (max_choice p q).imp_right .inl
  · exact .inr (.inr (max_choice r s))

/-- the order in which the source lists the four products in the mixed–mixed class -/
theorem min4_mixed (p q r s : Rat) : min4 q r p s = min4 p q r s := by
  simp only [min4]; ac_rfl

theorem max4_mixed (p q r s : Rat) : max4 p s q r = max4 p q r s := by
  simp only [max4]; ac_rfl

theorem inv_mem {c d y : Rat} (h0 : 0 < c ∨ d < 0) (hy1 : c ≤ y) (hy2 : y ≤ d) :
    d⁻¹ ≤ y⁻¹ ∧ y⁻¹ ≤ c⁻¹ := by
  rcases h0 with hc | hd
  · exact ⟨inv_anti₀ (hc.trans_le hy1) hy2, inv_anti₀ hc hy1⟩
  · have hy := hy2.trans_lt hd
    exact ⟨(inv_le_inv_of_neg hd hy).mpr hy2, (inv_le_inv_of_neg hy (hy1.trans_lt hy)).mpr hy1⟩

/-- move `x` to the endpoint that the sign of `y` favours, then `y` to the endpoint that the sign of that
endpoint favours -/
theorem mul_hull (a b c d x y : Rat) (hx1 : a ≤ x) (hx2 : x ≤ b) (hy1 : c ≤ y) (hy2 : y ≤ d) :
    min4 (a*c) (a*d) (b*c) (b*d) ≤ x*y ∧ x*y ≤ max4 (a*c) (a*d) (b*c) (b*d) := by
  unfold min4 max4
  simp only [min_le_iff, le_max_iff]
  rcases le_total 0 y with hy | hy
  · have lo : a*y ≤ x*y := mul_le_mul_of_nonneg_right hx1 hy
    have hi : x*y ≤ b*y := mul_le_mul_of_nonneg_right hx2 hy
    constructor
    · rcases le_total 0 a with ha | ha
      · exact .inl (.inl ((mul_le_mul_of_nonneg_left hy1 ha).trans lo))
      · exact .inl (.inr ((mul_le_mul_of_nonpos_left hy2 ha).trans lo))
    · rcases le_total 0 b with hb | hb
      · exact .inr (.inr (hi.trans (mul_le_mul_of_nonneg_left hy2 hb)))
      · exact .inr (.inl (hi.trans (mul_le_mul_of_nonpos_left hy1 hb)))
  · have lo : b*y ≤ x*y := mul_le_mul_of_nonpos_right hx2 hy
    have hi : x*y ≤ a*y := mul_le_mul_of_nonpos_right hx1 hy
    constructor
    · rcases le_total 0 b with hb | hb
      · exact .inr (.inl ((mul_le_mul_of_nonneg_left hy1 hb).trans lo))
      · exact .inr (.inr ((mul_le_mul_of_nonpos_left hy2 hb).trans lo))
    · rcases le_total 0 a with ha | ha
      · exact .inl (.inr (hi.trans (mul_le_mul_of_nonneg_left hy2 ha)))
      · exact .inl (.inl (hi.trans (mul_le_mul_of_nonpos_left hy1 ha)))

/-! ### which corners, by the signs of the operands

An operand `[a, b]` is nonnegative (`0 ≤ a`), nonpositive (`b ≤ 0`) or mixed (`a ≤ 0 ≤ b`).  In
each proof `e1 … e4` order the corners along the four edges `a*c — a*d`, `b*c — b*d`,
`a*c — b*c`, `a*d — b*d`; the sign of the common factor decides each. -/
section signs
variable {a b c d : Rat}

theorem hull_pos_pos (hab : a ≤ b) (hcd : c ≤ d) (ha : 0 ≤ a) (hc : 0 ≤ c) :
    (min4 (a*c) (a*d) (b*c) (b*d), max4 (a*c) (a*d) (b*c) (b*d)) = (a*c, b*d) := by
  have e1 : a*c ≤ a*d := mul_le_mul_of_nonneg_left hcd ha
  have e2 : b*c ≤ b*d := mul_le_mul_of_nonneg_left hcd (ha.trans hab)
  have e3 : a*c ≤ b*c := mul_le_mul_of_nonneg_right hab hc
  have e4 : a*d ≤ b*d := mul_le_mul_of_nonneg_right hab (hc.trans hcd)
  exact Prod.ext (min4_eq (.inl rfl) le_rfl e1 e3 (e1.trans e4))
    (max4_eq (.inr (.inr (.inr rfl))) (e1.trans e4) e4 e2 le_rfl)

theorem hull_pos_mix (hab : a ≤ b) (hcd : c ≤ d) (ha : 0 ≤ a) (hc : c ≤ 0) (hd : 0 ≤ d) :
    (min4 (a*c) (a*d) (b*c) (b*d), max4 (a*c) (a*d) (b*c) (b*d)) = (b*c, b*d) := by
  have e1 : a*c ≤ a*d := mul_le_mul_of_nonneg_left hcd ha
  have e2 : b*c ≤ b*d := mul_le_mul_of_nonneg_left hcd (ha.trans hab)
  have e3 : b*c ≤ a*c := mul_le_mul_of_nonpos_right hab hc
  have e4 : a*d ≤ b*d := mul_le_mul_of_nonneg_right hab hd
  exact Prod.ext (min4_eq (.inr (.inr (.inl rfl))) e3 (e3.trans e1) le_rfl e2)
    (max4_eq (.inr (.inr (.inr rfl))) (e1.trans e4) e4 e2 le_rfl)

theorem hull_pos_neg (hab : a ≤ b) (hcd : c ≤ d) (ha : 0 ≤ a) (hd : d ≤ 0) :
    (min4 (a*c) (a*d) (b*c) (b*d), max4 (a*c) (a*d) (b*c) (b*d)) = (b*c, a*d) := by
  have e1 : a*c ≤ a*d := mul_le_mul_of_nonneg_left hcd ha
  have e2 : b*c ≤ b*d := mul_le_mul_of_nonneg_left hcd (ha.trans hab)
  have e3 : b*c ≤ a*c := mul_le_mul_of_nonpos_right hab (hcd.trans hd)
  have e4 : b*d ≤ a*d := mul_le_mul_of_nonpos_right hab hd
  exact Prod.ext (min4_eq (.inr (.inr (.inl rfl))) e3 (e3.trans e1) le_rfl e2)
    (max4_eq (.inr (.inl rfl)) e1 le_rfl (e3.trans e1) e4)

theorem hull_mix_pos (hab : a ≤ b) (hcd : c ≤ d) (ha : a ≤ 0) (hb : 0 ≤ b) (hc : 0 ≤ c) :
    (min4 (a*c) (a*d) (b*c) (b*d), max4 (a*c) (a*d) (b*c) (b*d)) = (a*d, b*d) := by
  have e1 : a*d ≤ a*c := mul_le_mul_of_nonpos_left hcd ha
  have e2 : b*c ≤ b*d := mul_le_mul_of_nonneg_left hcd hb
  have e3 : a*c ≤ b*c := mul_le_mul_of_nonneg_right hab hc
  have e4 : a*d ≤ b*d := mul_le_mul_of_nonneg_right hab (hc.trans hcd)
  exact Prod.ext (min4_eq (.inr (.inl rfl)) e1 le_rfl (e1.trans e3) e4)
    (max4_eq (.inr (.inr (.inr rfl))) (e3.trans e2) e4 e2 le_rfl)

theorem hull_mix_mix (ha : a ≤ 0) (hb : 0 ≤ b) (hc : c ≤ 0) (hd : 0 ≤ d) :
    (min4 (a*c) (a*d) (b*c) (b*d), max4 (a*c) (a*d) (b*c) (b*d)) = (min (a*d) (b*c), max (a*c) (b*d)) := by
  have e1 : a*d ≤ a*c := mul_le_mul_of_nonpos_left (hc.trans hd) ha
  have e2 : b*c ≤ b*d := mul_le_mul_of_nonneg_left (hc.trans hd) hb
  rw [min4, max4, min_eq_right e1, min_eq_left e2, max_eq_left e1, max_eq_right e2]

theorem hull_mix_neg (hab : a ≤ b) (hcd : c ≤ d) (ha : a ≤ 0) (hb : 0 ≤ b) (hd : d ≤ 0) :
    (min4 (a*c) (a*d) (b*c) (b*d), max4 (a*c) (a*d) (b*c) (b*d)) = (b*c, a*c) := by
  have e1 : a*d ≤ a*c := mul_le_mul_of_nonpos_left hcd ha
  have e2 : b*c ≤ b*d := mul_le_mul_of_nonneg_left hcd hb
  have e3 : b*c ≤ a*c := mul_le_mul_of_nonpos_right hab (hcd.trans hd)
  have e4 : b*d ≤ a*d := mul_le_mul_of_nonpos_right hab hd
  exact Prod.ext (min4_eq (.inr (.inr (.inl rfl))) e3 (e2.trans e4) le_rfl e2)
    (max4_eq (.inl rfl) le_rfl e1 e3 (e4.trans e1))

theorem hull_neg_pos (hab : a ≤ b) (hcd : c ≤ d) (hb : b ≤ 0) (hc : 0 ≤ c) :
    (min4 (a*c) (a*d) (b*c) (b*d), max4 (a*c) (a*d) (b*c) (b*d)) = (a*d, b*c) := by
  have e1 : a*d ≤ a*c := mul_le_mul_of_nonpos_left hcd (hab.trans hb)
  have e2 : b*d ≤ b*c := mul_le_mul_of_nonpos_left hcd hb
  have e3 : a*c ≤ b*c := mul_le_mul_of_nonneg_right hab hc
  have e4 : a*d ≤ b*d := mul_le_mul_of_nonneg_right hab (hc.trans hcd)
  exact Prod.ext (min4_eq (.inr (.inl rfl)) e1 le_rfl (e1.trans e3) e4)
    (max4_eq (.inr (.inr (.inl rfl))) e3 (e1.trans e3) le_rfl e2)

theorem hull_neg_mix (hab : a ≤ b) (hcd : c ≤ d) (hb : b ≤ 0) (hc : c ≤ 0) (hd : 0 ≤ d) :
    (min4 (a*c) (a*d) (b*c) (b*d), max4 (a*c) (a*d) (b*c) (b*d)) = (a*d, a*c) := by
  have e1 : a*d ≤ a*c := mul_le_mul_of_nonpos_left hcd (hab.trans hb)
  have e2 : b*d ≤ b*c := mul_le_mul_of_nonpos_left hcd hb
  have e3 : b*c ≤ a*c := mul_le_mul_of_nonpos_right hab hc
  have e4 : a*d ≤ b*d := mul_le_mul_of_nonneg_right hab hd
  exact Prod.ext (min4_eq (.inr (.inl rfl)) e1 le_rfl (e4.trans e2) e4)
    (max4_eq (.inl rfl) le_rfl e1 e3 (e2.trans e3))

theorem hull_neg_neg (hab : a ≤ b) (hcd : c ≤ d) (hb : b ≤ 0) (hd : d ≤ 0) :
    (min4 (a*c) (a*d) (b*c) (b*d), max4 (a*c) (a*d) (b*c) (b*d)) = (b*d, a*c) := by
  have e1 : a*d ≤ a*c := mul_le_mul_of_nonpos_left hcd (hab.trans hb)
  have e2 : b*d ≤ b*c := mul_le_mul_of_nonpos_left hcd hb
  have e3 : b*c ≤ a*c := mul_le_mul_of_nonpos_right hab (hcd.trans hd)
  have e4 : b*d ≤ a*d := mul_le_mul_of_nonpos_right hab hd
  exact Prod.ext (min4_eq (.inr (.inr (.inr rfl))) (e2.trans e3) e4 e2 le_rfl)
    (max4_eq (.inl rfl) le_rfl e1 e3 (e2.trans e3))

end signs

/-! ### the sign rules of a product table -/

theorem hull_zero_left (c d : Rat) :
    (min4 (0*c) (0*d) (0*c) (0*d), max4 (0*c) (0*d) (0*c) (0*d)) = (0, 0) := by
  simp [min4, max4]

theorem hull_zero_right (a b : Rat) :
    (min4 (a*0) (a*0) (b*0) (b*0), max4 (a*0) (a*0) (b*0) (b*0)) = (0, 0) := by
  simp [min4, max4]

theorem sign_cases {a b : Rat} (hab : a ≤ b) :
    (a = 0 ∧ b = 0) ∨ (0 ≤ a ∧ ¬ b ≤ 0) ∨ (¬ 0 ≤ a ∧ b ≤ 0) ∨ (¬ 0 ≤ a ∧ ¬ b ≤ 0) := by
  by_cases ha : 0 ≤ a <;> by_cases hb : b ≤ 0
  · exact .inl ⟨le_antisymm (hab.trans hb) ha, le_antisymm hb (ha.trans hab)⟩
  · exact .inr (.inl ⟨ha, hb⟩)
  · exact .inr (.inr (.inl ⟨ha, hb⟩))
  · exact .inr (.inr (.inr ⟨ha, hb⟩))

/-- A result `r` that follows the sign rules of the product is the corner hull.  The rules are
stated for the outcomes of the tests `0 ≤ a`, `b ≤ 0`, `0 ≤ c`, `d ≤ 0`, under which every guard of
a table is decided, so they can be checked against a table of overlapping, overwriting guards
whatever the order of the guards.  Where an operand is `[0, 0]` two guards hold and the order
decides which corners are written; the rules ask for the value `(0, 0)` there. -/
theorem hull_of_sign_rules {a b c d : Rat} (hab : a ≤ b) (hcd : c ≤ d) {r : Option (Rat × Rat)}
    (pp : 0 ≤ a → ¬ b ≤ 0 → 0 ≤ c → ¬ d ≤ 0 → r = some (a*c, b*d))
    (pm : 0 ≤ a → ¬ b ≤ 0 → ¬ 0 ≤ c → ¬ d ≤ 0 → r = some (b*c, b*d))
    (pn : 0 ≤ a → ¬ b ≤ 0 → ¬ 0 ≤ c → d ≤ 0 → r = some (b*c, a*d))
    (mp : ¬ 0 ≤ a → ¬ b ≤ 0 → 0 ≤ c → ¬ d ≤ 0 → r = some (a*d, b*d))
    (mm : ¬ 0 ≤ a → ¬ b ≤ 0 → ¬ 0 ≤ c → ¬ d ≤ 0 →
      r = some (min4 (a*d) (b*c) (a*c) (b*d), max4 (a*c) (b*d) (a*d) (b*c)))
    (mn : ¬ 0 ≤ a → ¬ b ≤ 0 → ¬ 0 ≤ c → d ≤ 0 → r = some (b*c, a*c))
    (np : ¬ 0 ≤ a → b ≤ 0 → 0 ≤ c → ¬ d ≤ 0 → r = some (a*d, b*c))
    (nm : ¬ 0 ≤ a → b ≤ 0 → ¬ 0 ≤ c → ¬ d ≤ 0 → r = some (a*d, a*c))
    (nn : ¬ 0 ≤ a → b ≤ 0 → ¬ 0 ≤ c → d ≤ 0 → r = some (b*d, a*c))
    (zz : a = 0 → b = 0 → c = 0 → d = 0 → r = some (0, 0))
    (zp : a = 0 → b = 0 → 0 ≤ c → ¬ d ≤ 0 → r = some (0, 0))
    (zn : a = 0 → b = 0 → ¬ 0 ≤ c → d ≤ 0 → r = some (0, 0))
    (zm : a = 0 → b = 0 → ¬ 0 ≤ c → ¬ d ≤ 0 → r = some (0, 0))
    (pz : 0 ≤ a → ¬ b ≤ 0 → c = 0 → d = 0 → r = some (0, 0))
    (nz : ¬ 0 ≤ a → b ≤ 0 → c = 0 → d = 0 → r = some (0, 0))
    (mz : ¬ 0 ≤ a → ¬ b ≤ 0 → c = 0 → d = 0 → r = some (0, 0)) :
    r = some (min4 (a*c) (a*d) (b*c) (b*d), max4 (a*c) (a*d) (b*c) (b*d)) := by
  rcases sign_cases hab with ⟨rfl, rfl⟩ | ⟨ha, hb⟩ | ⟨ha, hb⟩ | ⟨ha, hb⟩
  · rw [hull_zero_left]
    rcases sign_cases hcd with ⟨rfl, rfl⟩ | ⟨hc, hd⟩ | ⟨hc, hd⟩ | ⟨hc, hd⟩
    · exact zz rfl rfl rfl rfl
    · exact zp rfl rfl hc hd
    · exact zn rfl rfl hc hd
    · exact zm rfl rfl hc hd
  · rcases sign_cases hcd with ⟨rfl, rfl⟩ | ⟨hc, hd⟩ | ⟨hc, hd⟩ | ⟨hc, hd⟩
    · rw [hull_zero_right]
      exact pz ha hb rfl rfl
    · rw [pp ha hb hc hd, hull_pos_pos hab hcd ha hc]
    · rw [pn ha hb hc hd, hull_pos_neg hab hcd ha hd]
    · rw [pm ha hb hc hd, hull_pos_mix hab hcd ha (le_of_not_ge hc) (le_of_not_ge hd)]
  · rcases sign_cases hcd with ⟨rfl, rfl⟩ | ⟨hc, hd⟩ | ⟨hc, hd⟩ | ⟨hc, hd⟩
    · rw [hull_zero_right]
      exact nz ha hb rfl rfl
    · rw [np ha hb hc hd, hull_neg_pos hab hcd hb hc]
    · rw [nn ha hb hc hd, hull_neg_neg hab hcd hb hd]
    · rw [nm ha hb hc hd, hull_neg_mix hab hcd hb (le_of_not_ge hc) (le_of_not_ge hd)]
  · have ha' := le_of_not_ge ha
    have hb' := le_of_not_ge hb
    rcases sign_cases hcd with ⟨rfl, rfl⟩ | ⟨hc, hd⟩ | ⟨hc, hd⟩ | ⟨hc, hd⟩
    · rw [hull_zero_right]
      exact mz ha hb rfl rfl
    · rw [mp ha hb hc hd, hull_mix_pos hab hcd ha' hb' hc]
    · rw [mn ha hb hc hd, hull_mix_neg hab hcd ha' hb' hd]
    · rw [mm ha hb hc hd, min4_mixed, max4_mixed]

end Pun.Arith
