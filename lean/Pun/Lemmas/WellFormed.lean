import Pun.Model.WellFormed
import Pun.Lemmas.PBoxFrechet
import Pun.Lemmas.PBoxMk
import Mathlib.Tactic.Linarith
/-!
# Lemmas for C04 (well-formed p-boxes)

`WF n p` : both bounds have `n` entries, are non-decreasing, and `left ≤ right` at every step.
The constructor `mk` of the shared model returns nothing else (`mk_onlyWF`, for ANY arguments), and every operation
of the model returns what some constructor call returned: `OnlyWF n m` says that the computation `m` only returns
well-formed boxes, and the `…_onlyWF` lemmas follow each operation down to its constructor calls.
Then: the sign facts behind the routing of the Frechet product (a box with `hi ≤ 0` negates to a non-negative one, a
box that does not straddle zero and has `hi > 0` is non-negative), the tabulated unary maps, and the NaN-aware
constructor `mkN`.  Everything is about the executable definitions of `Pun.PBox` / `Pun.WF`.
-/
set_option linter.unusedVariables false
set_option linter.dupNamespace false
namespace Pun.WF
open Pun Pun.PBox List

structure WF (n : Nat) (p : PB) : Prop where
  llen : p.left.length = n
  rlen : p.right.length = n
  lsorted : p.left.Pairwise (· ≤ ·)
  rsorted : p.right.Pairwise (· ≤ ·)
  le : Forall₂ (· ≤ ·) p.left p.right

structure WFS (n : Nat) (p : PB) : Prop where
  llen : p.left.length = n
  rlen : p.right.length = n
  lsorted : p.left.Pairwise (· ≤ ·)
  rsorted : p.right.Pairwise (· ≤ ·)

theorem WF.toWFS {n : Nat} {p : PB} (h : WF n p) : WFS n p := ⟨h.llen, h.rlen, h.lsorted, h.rsorted⟩

/-! ## computations that only return well-formed boxes -/

def OnlyWF (n : Nat) (m : Except Err PB) : Prop := ∀ P, m = .ok P → WF n P

theorem OnlyWF.error {n : Nat} {e : Err} : OnlyWF n (.error e) := fun _ h => nomatch h

theorem OnlyWF.pure {n : Nat} {p : PB} (h : WF n p) : OnlyWF n (pure p) := fun _ e => Except.ok.inj e ▸ h

theorem OnlyWF.bind {n : Nat} {α : Type} {m : Except Err α} {f : α → Except Err PB} (hf : ∀ a, OnlyWF n (f a)) :
    OnlyWF n (m >>= f) := fun P h => by
  obtain ⟨a, -, h⟩ := bind_ok_inv h
  exact hf a P h

theorem OnlyWF.bind_wf {n : Nat} {m : Except Err PB} {f : PB → Except Err PB} (hm : OnlyWF n m)
    (hf : ∀ a, WF n a → OnlyWF n (f a)) : OnlyWF n (m >>= f) := fun P h => by
  obtain ⟨a, ha, h⟩ := bind_ok_inv h
  exact hf a (hm a ha) P h

/-- **the constructor of the shared model only returns well-formed boxes**: the length, monotonicity and crossing
tests are all made on what it returns -/
theorem mk_onlyWF {steps : Nat} {lists : Bool} {l r : List Rat} : OnlyWF steps (mk steps lists l r) := fun P h => by
  obtain ⟨h1, h2, s1, s2, hle⟩ := mk_inv h
  exact ⟨boundSteps_length h1, boundSteps_length h2, s1, s2, hle⟩

theorem mk_wfs {steps : Nat} {lists : Bool} {l r : List Rat} {P : PB} (h : mk steps lists l r = .ok P) :
    WFS steps P := (mk_onlyWF P h).toWFS

theorem anyGt_false_iff {l r : List Rat} (hlen : l.length = r.length) :
    anyGt l r = false ↔ Forall₂ (· ≤ ·) l r := cross_false_iff hlen

/-! ## the Frechet rule keeps `left ≤ right` -/

theorem frechetRaw_le (op : Rat → Rat → Rat)
    (hop : ∀ p p' q q', p ≤ p' → q ≤ q' → op p q ≤ op p' q')
    (n : Nat) (x y : PB) (hx : WF n x) (hy : WF n y) :
    Forall₂ (· ≤ ·) (frechetLeftRaw op x.left y.left) (frechetRightRaw op x.right y.right) := by
  have ha := hx.llen; have hA := hx.rlen; have hb := hy.llen; have hB := hy.rlen
  refine forall₂_of_length_eq_of_get (by rw [frechetLeftRaw_length, frechetRightRaw_length, ha, hA]) fun i h1 h2 => ?_
  rw [frechetLeftRaw_length] at h1
  exact PBox.frechetRaw_le op hop x.left x.right y.left y.right n ha hA hb hB hx.rsorted hy.rsorted
    (fun j hj => getElem_le_of_forall₂ hx.le j (by omega) (by omega))
    (fun j hj => getElem_le_of_forall₂ hy.le j (by omega) (by omega)) i (by omega)

/-! ## the operations of the shared model -/

theorem classicFrechet_onlyWF {n : Nat} {op : Rat → Rat → Rat} {x y : PB} : OnlyWF n (classicFrechet n op x y) :=
  mk_onlyWF

theorem classicFrechet_add_wf (n : Nat) (x y P : PB) (hx : WF n x) (hy : WF n y)
    (h : classicFrechet n (· + ·) x y = .ok P) : WF n P := classicFrechet_onlyWF P h

theorem neg_onlyWF {n : Nat} {x : PB} : OnlyWF n (PBox.neg n x) := mk_onlyWF

theorem numberOp_onlyWF {n : Nat} {f : Rat → Rat → Rat} {x : PB} {c : Rat} : OnlyWF n (numberOp n f x c) := mk_onlyWF

theorem env_onlyWF {n : Nat} {x y : PB} : OnlyWF n (PBox.env n x y) := mk_onlyWF

theorem imp_onlyWF {n : Nat} {x y : PB} : OnlyWF n (PBox.imp n x y) := by
  unfold PBox.imp
  dsimp only
  split
  · exact .error
  · exact mk_onlyWF

theorem recip_onlyWF {n : Nat} {x : PB} : OnlyWF n (PBox.recip n x) := by
  unfold PBox.recip
  split
  · exact .error
  · split
    · exact .error
    · exact mk_onlyWF

theorem add_onlyWF {n : Nat} {d : Dep} {x y : PB} : OnlyWF n (PBox.add n d x y) := by
  cases d with
  | unknown => exact .error
  | _ => exact mk_onlyWF

theorem sub_onlyWF {n : Nat} {d : Dep} {x y : PB} : OnlyWF n (PBox.sub n d x y) :=
  .bind fun _ => add_onlyWF

theorem negativeFrechet_onlyWF {n : Nat} {x y : PB} : OnlyWF n (negativeFrechet n x y) := by
  unfold negativeFrechet
  split
  · dsimp only
    -- in each of the four branches: the Frechet product `r` of the operands or their negations, then `r` or `-r`
    have tail : ∀ a b : PB, OnlyWF n (do
        let r ← classicFrechet n (· * ·) a b
        if (decide (PBox.hi x ≤ 0)).xor (decide (PBox.hi y ≤ 0)) then PBox.neg n r else pure r) :=
      fun a b => .bind_wf classicFrechet_onlyWF fun r wr => by
        split
        · exact neg_onlyWF
        · exact .pure wr
    split <;> refine .bind fun a => ?_ <;> split <;> exact .bind fun b => tail a b
  · exact .error

theorem frechetMulNoStraddle_onlyWF {n : Nat} {x y : PB} : OnlyWF n (frechetMulNoStraddle n x y) := by
  unfold frechetMulNoStraddle
  split
  · exact negativeFrechet_onlyWF
  · exact classicFrechet_onlyWF

theorem straddleFrechet_onlyWF {n : Nat} {x y : PB} : OnlyWF n (straddleFrechet n x y) :=
  .bind fun _ => .bind fun _ => imp_onlyWF

theorem frechetMul_onlyWF {n : Nat} {x y : PB} : OnlyWF n (frechetMul n x y) := by
  unfold frechetMul
  split
  · split
    · exact straddleFrechet_onlyWF
    · exact straddleFrechet_onlyWF
  · exact frechetMulNoStraddle_onlyWF

theorem mul_onlyWF {n : Nat} {d : Dep} {x y : PB} : OnlyWF n (PBox.mul n d x y) := by
  cases d with
  | unknown => exact .error
  | f => exact frechetMul_onlyWF
  | _ => exact mk_onlyWF

theorem divC_onlyWF {n : Nat} {d : Dep} {x y : PB} : OnlyWF n (divC n d x y) := by
  unfold divC
  split
  · exact .error
  · exact mul_onlyWF

theorem binopC_onlyWF {n : Nat} {o : Op} {d : Dep} {x y : PB} : OnlyWF n (binopC n o d x y) := by
  unfold binopC
  cases o with
  | div => exact divC_onlyWF
  | add => exact add_onlyWF
  | sub => exact sub_onlyWF
  | mul => exact mul_onlyWF

theorem numRight_onlyWF {n : Nat} {o : Op} {x : PB} {c : Rat} : OnlyWF n (numRight n o x c) := by
  unfold numRight
  cases o with
  | div =>
    simp only
    split
    · exact .error
    · exact numberOp_onlyWF
  | _ => exact numberOp_onlyWF

theorem numLeftC_onlyWF {n : Nat} {o : Op} {c : Rat} {x : PB} : OnlyWF n (numLeftC n o c x) := by
  unfold numLeftC
  cases o with
  | div =>
    intro P h
    simp only at h
    split at h
    · cases h
    · rename_i q hq
      cases h
      exact OnlyWF.bind (fun _ => numberOp_onlyWF) _ hq
  | sub => exact .bind fun _ => numberOp_onlyWF
  | _ => exact numberOp_onlyWF

theorem unaryK_onlyWF {n : Nat} {k : UKind} {t : List (Rat × Rat)} {x : PB} : OnlyWF n (unaryK n k t x) := by
  unfold unaryK
  cases k with
  | exp => exact mk_onlyWF
  | sqrt =>
    simp only
    split
    · exact .error
    · exact mk_onlyWF
  | log =>
    simp only
    split
    · exact .error
    · split
      · exact .error
      · exact mk_onlyWF

/-! ### the binary operations and the reciprocal, in the form with operand hypotheses -/

theorem add_wf (n : Nat) (d : Dep) (x y P : PB) (hx : WF n x) (hy : WF n y)
    (h : PBox.add n d x y = .ok P) : WF n P := add_onlyWF P h

theorem sub_wf (n : Nat) (d : Dep) (x y P : PB) (hx : WF n x) (hy : WF n y)
    (h : PBox.sub n d x y = .ok P) : WF n P := sub_onlyWF P h

theorem mul_wf (n : Nat) (d : Dep) (x y P : PB) (hx : WF n x) (hy : WF n y)
    (h : PBox.mul n d x y = .ok P) : WF n P := mul_onlyWF P h

theorem divC_wf (n : Nat) (d : Dep) (x y P : PB) (hx : WF n x) (hy : WF n y)
    (h : divC n d x y = .ok P) : WF n P := divC_onlyWF P h

theorem recip_wf (n : Nat) (x P : PB) (hx : WF n x) (h : PBox.recip n x = .ok P) : WF n P := recip_onlyWF P h

/-! ## signs (the routing of the Frechet product) -/

theorem le_hi {n : Nat} {x : PB} (hx : WF n x) {v : Rat} (hv : v ∈ x.left ∨ v ∈ x.right) : v ≤ PBox.hi x := by
  unfold PBox.hi
  rcases hv with hv | hv
  · obtain ⟨i, hi, rfl⟩ := getElem_of_mem hv
    have h2 : i < x.right.length := by rw [hx.rlen, ← hx.llen]; exact hi
    exact le_trans (getElem_le_of_forall₂ hx.le i hi h2) (le_getLastD hx.rsorted (getElem_mem h2))
  · exact le_getLastD hx.rsorted hv

theorem mk_eq_or_swap {n : Nat} {lists : Bool} {l r : List Rat} {P : PB} (hl : l.length = n) (hr : r.length = n)
    (h : mk n lists l r = .ok P) : (P.left = l ∧ P.right = r) ∨ (P.left = r ∧ P.right = l) := by
  obtain ⟨h1, h2, -⟩ := mk_inv h
  cases hs : mkSwitch lists l r
  · rw [hs, if_neg Bool.false_ne_true, boundSteps_eq] at h1 h2
    · exact Or.inl ⟨(Except.ok.inj h1).symm, (Except.ok.inj h2).symm⟩
    · exact hr
    · exact hl
  · rw [hs, if_pos rfl, boundSteps_eq] at h1 h2
    · exact Or.inr ⟨(Except.ok.inj h1).symm, (Except.ok.inj h2).symm⟩
    · exact hl
    · exact hr

theorem neg_entries {n : Nat} {x a : PB} (hl : x.left.length = n) (hr : x.right.length = n)
    (h : PBox.neg n x = .ok a) {v : Rat}
    (hv : v ∈ a.left ∨ v ∈ a.right) : -v ∈ x.left ∨ -v ∈ x.right := by
  have mem : ∀ {L : List Rat}, v ∈ sortR (L.reverse.map (- ·)) → -v ∈ L := by
    intro L hm
    rw [(sortR_perm _).mem_iff, mem_map] at hm
    obtain ⟨u, hu, rfl⟩ := hm
    simpa using hu
  rcases mk_eq_or_swap (by rw [sortR_length]; simp [hr]) (by rw [sortR_length]; simp [hl]) h with
    ⟨e1, e2⟩ | ⟨e1, e2⟩
  · rw [e1, e2] at hv
    exact hv.symm.imp mem mem
  · rw [e1, e2] at hv
    exact hv.imp mem mem

theorem neg_nonneg {n : Nat} {x a : PB} (hx : WF n x) (h0 : PBox.hi x ≤ 0) (h : PBox.neg n x = .ok a) :
    NonNeg a := by
  have key : ∀ v, v ∈ a.left ∨ v ∈ a.right → 0 ≤ v := fun v hv => by
    have := le_hi hx (neg_entries hx.llen hx.rlen h hv)
    linarith
  exact ⟨fun v hv => key v (Or.inl hv), fun v hv => key v (Or.inr hv)⟩

theorem nonneg_of_not_straddle {n : Nat} {x : PB} (hx : WF n x) (h0 : ¬ PBox.hi x ≤ 0)
    (hs : straddlesZero x = false) : NonNeg x := by
  have hr : x.right ≠ [] := by
    intro he; apply h0; unfold PBox.hi; rw [he]; simp
  have hl : x.left ≠ [] := by
    intro he
    apply hr
    rw [← length_eq_zero_iff, hx.rlen, ← hx.llen, he]
    rfl
  have hmax : 0 < maxL 0 x.right := by
    have := (maxL_spec 0 x.right hr).2 _ (getLastD_mem _ 0 hr)
    unfold PBox.hi at h0
    linarith [not_le.mp h0]
  have hmin : 0 ≤ minL 0 x.left := by
    unfold straddlesZero at hs
    simp only [Bool.and_eq_false_iff, decide_eq_false_iff_not, not_lt] at hs
    rcases hs with hs | hs
    · exact hs
    · exact absurd hmax (not_lt.mpr hs)
  have hleft : ∀ v ∈ x.left, 0 ≤ v := fun v hv => le_trans hmin ((minL_spec 0 x.left hl).2 v hv)
  refine ⟨hleft, ?_⟩
  intro v hv
  obtain ⟨i, hi, rfl⟩ := getElem_of_mem hv
  have h2 : i < x.left.length := by rw [hx.llen, ← hx.rlen]; exact hi
  exact le_trans (hleft _ (getElem_mem h2)) (getElem_le_of_forall₂ hx.le i h2 hi)

/-! ## the tabulated unary maps -/

theorem tabAp_mem (t : List (Rat × Rat)) (hne : t ≠ []) (x : Rat) : tabAp t x ∈ t.map Prod.snd := by
  induction t with
  | nil => exact absurd rfl hne
  | cons a u ih =>
    obtain ⟨k0, v0⟩ := a
    cases u with
    | nil => simp [tabAp]
    | cons b w =>
      obtain ⟨k1, v1⟩ := b
      unfold tabAp
      split
      · simp
      · have := ih (by simp)
        exact mem_cons_of_mem _ this

theorem tabAp_mono (t : List (Rat × Rat)) (hv : (t.map Prod.snd).Pairwise (· ≤ ·)) :
    ∀ x y : Rat, x ≤ y → tabAp t x ≤ tabAp t y := by
  induction t with
  | nil => intro x y _; simp [tabAp]
  | cons a u ih =>
    obtain ⟨k0, v0⟩ := a
    cases u with
    | nil => intro x y _; simp [tabAp]
    | cons b w =>
      obtain ⟨k1, v1⟩ := b
      intro x y hxy
      simp only [map_cons, pairwise_cons] at hv
      have hv' : (((k1, v1) :: w).map Prod.snd).Pairwise (· ≤ ·) := by
        simp only [map_cons, pairwise_cons]; exact hv.2
      unfold tabAp
      by_cases h2 : 2 * y ≤ k0 + k1
      · have h1 : 2 * x ≤ k0 + k1 := by linarith
        simp [h1, h2]
      · simp only [h2, if_false]
        by_cases h1 : 2 * x ≤ k0 + k1
        · simp only [h1, if_true]
          have := tabAp_mem ((k1, v1) :: w) (by simp) y
          simp only [map_cons] at this
          exact hv.1 _ this
        · simp only [h1, if_false]
          exact ih hv' x y hxy

/-! ## the full constructor `mkN` (NaN-aware, both directions of `bound_steps_check`) -/

theorem unN_some {l : List NR} {l' : List Rat} (h : unN l = some l') : l = l'.map some := by
  induction l generalizing l' with
  | nil => simp [unN] at h; subst h; rfl
  | cons a t ih =>
    cases a with
    | none => simp [unN] at h
    | some x =>
      simp only [unN, Option.map_eq_some_iff] at h
      obtain ⟨u, hu, rfl⟩ := h
      rw [ih hu]; rfl

theorem isIncreasingN_map_some (l : List Rat) : isIncreasingN (l.map some) = isIncreasing l := by
  induction l with
  | nil => rfl
  | cons a t ih =>
    cases t with
    | nil => rfl
    | cons b u =>
      simp only [map_cons, isIncreasingN, isIncreasing, geN] at ih ⊢
      rw [ih]

/-- NaN anywhere in a bound of at least two entries fails `np.all(np.diff(arr) >= 0)` -/
theorem isIncreasingN_none {l : List NR} (hn : none ∈ l) (h2 : 2 ≤ l.length) : isIncreasingN l = false := by
  induction l with
  | nil => cases hn
  | cons a t ih =>
    cases t with
    | nil => simp at h2
    | cons b u =>
      simp only [isIncreasingN, Bool.and_eq_false_iff]
      rcases mem_cons.mp hn with ha | ht
      · left; subst ha; cases b <;> rfl
      · cases u with
        | nil =>
          simp only [mem_singleton] at ht
          left; subst ht; cases a <;> rfl
        | cons c w => right; exact ih ht (by simp)

theorem condenseN_length (n : Nat) (b : List NR) : (condenseN n b).length = n := by simp [condenseN]

theorem boundStepsN_length {c : Cfg} {b b' : List NR} (h : boundStepsN c b = .ok b') : b'.length = c.steps := by
  unfold boundStepsN at h
  split at h
  · cases h; exact condenseN_length _ _
  · split at h
    · unfold stretchN at h
      split at h
      · cases h
      · cases h; simp
    · cases h; omega

theorem boundStepsN_total (c : Cfg) {b : List NR} (hb : b ≠ []) : ∃ b', boundStepsN c b = .ok b' := by
  unfold boundStepsN
  split
  · exact ⟨_, rfl⟩
  · split
    · unfold stretchN
      have : b.length ≠ 0 := fun h => hb (length_eq_zero_iff.mp h)
      simp only [this, if_false]
      exact ⟨_, rfl⟩
    · exact ⟨_, rfl⟩

theorem boundStepsN_eq {c : Cfg} {b : List NR} (h : b.length = c.steps) : boundStepsN c b = .ok b := by
  unfold boundStepsN; simp [h]

theorem mkCore_inv {c : Cfg} {l r : List NR} {P : PB} (h : mkCore c l r = .ok P) :
    boundStepsN c l = .ok (P.left.map some) ∧ boundStepsN c r = .ok (P.right.map some) ∧
    isIncreasing P.left = true ∧ isIncreasing P.right = true ∧ anyGt P.left P.right = false := by
  unfold mkCore at h
  obtain ⟨l2, hl2, h⟩ := bind_ok_inv h
  obtain ⟨r2, hr2, h⟩ := bind_ok_inv h
  split at h
  · cases h
  · split at h
    · cases h
    · rename_i hinc
      split at h
      · rename_i l' r' e1 e2
        unfold guardLE at h
        split at h
        · cases h
        · rename_i hg
          cases h
          have el := unN_some e1
          have er := unN_some e2
          subst el; subst er
          simp only [Bool.or_eq_true, Bool.not_eq_true', not_or, Bool.not_eq_false] at hinc
          rw [isIncreasingN_map_some, isIncreasingN_map_some] at hinc
          exact ⟨hl2, hr2, hinc.1, hinc.2, by simpa using hg⟩
      · cases h

theorem mkCore_onlyWF {c : Cfg} {l r : List NR} : OnlyWF c.steps (mkCore c l r) := fun P h => by
  obtain ⟨h1, h2, i1, i2, hg⟩ := mkCore_inv h
  have l1 : P.left.length = c.steps := by simpa using boundStepsN_length h1
  have l2 : P.right.length = c.steps := by simpa using boundStepsN_length h2
  exact ⟨l1, l2, (isIncreasing_iff _).mp i1, (isIncreasing_iff _).mp i2, (anyGt_false_iff (by omega)).mp hg⟩

/-- **the constructor only returns well-formed boxes**: exactly `steps` entries per bound, no NaN (the bounds
are lists of numbers), both non-decreasing, `left ≤ right` at every step — for ANY input arrays -/
theorem mkN_onlyWF {c : Cfg} {lists : Bool} {l r : List NR} : OnlyWF c.steps (mkN c lists l r) := by
  unfold mkN
  refine .bind fun sw => ?_
  split
  · exact mkCore_onlyWF
  · exact mkCore_onlyWF

theorem mkCore_nan {c : Cfg} (h2 : 2 ≤ c.steps) {l r : List NR} (hl : l.length = c.steps) (hr : r.length = c.steps)
    (hn : none ∈ l ∨ none ∈ r) : mkCore c l r = .error .Other := by
  unfold mkCore
  rw [boundStepsN_eq hl, boundStepsN_eq hr]
  simp only [bind, Except.bind, hl, hr, ne_eq, not_true_eq_false, if_false]
  have : (!isIncreasingN l || !isIncreasingN r) = true := by
    rcases hn with hn | hn
    · rw [isIncreasingN_none hn (by omega)]; rfl
    · rw [isIncreasingN_none hn (by omega)]; simp
  simp [this]

end Pun.WF
