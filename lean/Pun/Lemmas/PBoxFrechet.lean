import Pun.Lemmas.PBoxList
import Pun.Lemmas.Frechet
/-!
# The Frechet rule of the model: `frechetLeftRaw`, `frechetRightRaw`, `frechetOp`

Entry `i` of the raw left bound is the largest `op a[j] b[i-j]`, `j ≤ i`; entry `i` of the raw right bound
is the smallest `op A[i+t] B[n-1-t]`, `t < n-i` (`frechetLeftRaw_getElem_spec`, `frechetRightRaw_getElem_spec`).
With the sorted bound lists read as monotone functions on `Fin n`, validity and tightness are those of
`Pun.Frechet`; both raw bounds are sorted already, so `frechetOp` returns them as they are.
-/
namespace Pun.PBox
open Pun Finset

theorem frechetLeftRaw_length (op : Rat → Rat → Rat) (a b : List Rat) :
    (frechetLeftRaw op a b).length = a.length := by simp [frechetLeftRaw]

theorem frechetRightRaw_length (op : Rat → Rat → Rat) (a b : List Rat) :
    (frechetRightRaw op a b).length = a.length := by simp [frechetRightRaw]

theorem frechetLeftRaw_getElem (op : Rat → Rat → Rat) (a b : List Rat) (i : Nat)
    (h : i < (frechetLeftRaw op a b).length) :
    (frechetLeftRaw op a b)[i] = maxL 0 (List.zipWith op (a.take (i + 1)) ((b.take (i + 1)).reverse)) := by
  simp [frechetLeftRaw]

theorem frechetRightRaw_getElem (op : Rat → Rat → Rat) (a b : List Rat) (i : Nat)
    (h : i < (frechetRightRaw op a b).length) :
    (frechetRightRaw op a b)[i] = minL 0 (List.zipWith op (a.drop i) ((b.drop i).reverse)) := by
  simp [frechetRightRaw]

theorem sorted_getElem_mono (a : List Rat) (sa : a.Pairwise (· ≤ ·)) (n : Nat) (ha : a.length = n) :
    Monotone (fun m : Fin n => a[m.val]'(by omega)) :=
  fun p q hpq => sorted_getElem_le sa (Fin.le_def.mp hpq) (by omega)

/-! ### the left bound -/

theorem antidiag_getElem? (op : Rat → Rat → Rat) (a b : List Rat) (i j : Nat)
    (hi : i < a.length) (hi' : i < b.length) (hj : j ≤ i) :
    (List.zipWith op (a.take (i + 1)) ((b.take (i + 1)).reverse))[j]? =
      some (op (a[j]'(by omega)) (b[i - j]'(by omega))) := by
  rw [List.getElem?_zipWith]
  have h1 : (a.take (i+1))[j]? = some (a[j]'(by omega)) := by
    rw [List.getElem?_take]; simp [show j < i + 1 by omega, show j < a.length by omega]
  have hlen : (b.take (i+1)).length = i + 1 := by simp; omega
  have h2 : ((b.take (i+1)).reverse)[j]? = some (b[i - j]'(by omega)) := by
    rw [List.getElem?_reverse (by rw [hlen]; omega), hlen, List.getElem?_take,
      show i + 1 - 1 - j = i - j by omega, if_pos (by omega)]
    exact List.getElem?_eq_getElem _
  rw [h1, h2]

theorem frechetLeftRaw_getElem_spec (op : Rat → Rat → Rat) (a b : List Rat) (hlen : a.length = b.length)
    (i : Nat) (hi : i < a.length) :
    (∀ j (hj : j ≤ i), op (a[j]'(by omega)) (b[i - j]'(by omega)) ≤
      (frechetLeftRaw op a b)[i]'(by rw [frechetLeftRaw_length]; exact hi)) ∧
    (∃ j, ∃ hj : j ≤ i, (frechetLeftRaw op a b)[i]'(by rw [frechetLeftRaw_length]; exact hi) =
      op (a[j]'(by omega)) (b[i - j]'(by omega))) := by
  have hi' : i < b.length := by omega
  rw [frechetLeftRaw_getElem]
  have hne : List.zipWith op (a.take (i + 1)) ((b.take (i + 1)).reverse) ≠ [] :=
    List.ne_nil_of_mem (List.mem_of_getElem? (antidiag_getElem? op a b i 0 hi hi' (Nat.zero_le i)))
  obtain ⟨hmem, hub⟩ := maxL_spec 0 _ hne
  refine ⟨fun j hj => hub _ (List.mem_of_getElem? (antidiag_getElem? op a b i j hi hi' hj)), ?_⟩
  obtain ⟨j, hjlt, hj⟩ := List.getElem_of_mem hmem
  have hj' : j ≤ i := by simp at hjlt; omega
  have h1 := antidiag_getElem? op a b i j hi hi' hj'
  rw [List.getElem?_eq_getElem hjlt, hj] at h1
  exact ⟨j, hj', Option.some.inj h1⟩

theorem frechetLeftRaw_spec (op : Rat → Rat → Rat) (a b : List Rat) (hlen : a.length = b.length)
    (i : Nat) (hi : i < a.length) :
    ∃ v, (frechetLeftRaw op a b)[i]? = some v ∧
      (∀ j (hj : j ≤ i), op (a[j]'(by omega)) (b[i - j]'(by omega)) ≤ v) ∧
      (∃ j, ∃ hj : j ≤ i, v = op (a[j]'(by omega)) (b[i - j]'(by omega))) :=
  ⟨_, List.getElem?_eq_getElem (by rw [frechetLeftRaw_length]; exact hi),
    frechetLeftRaw_getElem_spec op a b hlen i hi⟩

/-- **Frechet left validity on the model.** For `op` monotone in both arguments, sorted left bounds
`a`, `b`, any selections above them and ANY coupling `σ`, at most `i` outcomes fall strictly below
the `i`-th raw left bound. -/
theorem frechetLeft_valid (op : Rat → Rat → Rat)
    (hop : ∀ p p' q q', p ≤ p' → q ≤ q' → op p q ≤ op p' q')
    (a b : List Rat) (n : Nat) (ha : a.length = n) (hb : b.length = n)
    (sa : a.Pairwise (· ≤ ·)) (sb : b.Pairwise (· ≤ ·))
    (x y : Fin n → Rat) (hx : ∀ m : Fin n, a[m.val]'(by omega) ≤ x m)
    (hy : ∀ m : Fin n, b[m.val]'(by omega) ≤ y m)
    (σ : Equiv.Perm (Fin n)) (i : Fin n) (v : Rat)
    (hv : (frechetLeftRaw op a b)[i.val]? = some v) :
    (univ.filter (fun m : Fin n => op (x m) (y (σ m)) < v)).card ≤ i.val := by
  obtain ⟨_, rfl⟩ := List.getElem?_eq_some_iff.mp hv
  obtain ⟨-, j, hj, hatt⟩ := frechetLeftRaw_getElem_spec op a b (by omega) i.val (by omega)
  rw [hatt]
  calc _ ≤ j + (i.val - j) :=
        Frechet.frechet_left_valid op hop (fun m : Fin n => a[m.val]'(by omega))
          (fun m : Fin n => b[m.val]'(by omega)) x y (sorted_getElem_mono a sa n ha)
          (sorted_getElem_mono b sb n hb) hx hy σ ⟨j, by omega⟩ ⟨i.val - j, by omega⟩
    _ = i.val := by omega

/-- the raw left bound is already non-decreasing, so the final `sort` is the identity -/
theorem frechetLeftRaw_sorted (op : Rat → Rat → Rat)
    (hop : ∀ p p' q q', p ≤ p' → q ≤ q' → op p q ≤ op p' q')
    (a b : List Rat) (hlen : a.length = b.length) (sb : b.Pairwise (· ≤ ·)) :
    (frechetLeftRaw op a b).Pairwise (· ≤ ·) := by
  rw [List.pairwise_iff_getElem]
  intro i k hi hk hik
  rw [frechetLeftRaw_length] at hi hk
  obtain ⟨-, j, hj, hatt⟩ := frechetLeftRaw_getElem_spec op a b hlen i hi
  obtain ⟨hub, -⟩ := frechetLeftRaw_getElem_spec op a b hlen k hk
  rw [hatt]
  -- the term `op a[j] b[i-j]` attaining `left[i]` is below the term `op a[j] b[k-j]` of `left[k]`
  exact le_trans (hop _ _ _ _ (le_refl _) (sorted_getElem_le sb (by omega) (by omega)))
    (hub j (by omega))

/-- **Frechet left bound is best possible on the model**: for every rank `i` the anti-diagonal
coupling of the bounding selections `a`, `b` makes the `i`-th smallest outcome equal to `left[i]`. -/
theorem frechetLeft_tight (op : Rat → Rat → Rat)
    (hop : ∀ p p' q q', p ≤ p' → q ≤ q' → op p q ≤ op p' q')
    (a b : List Rat) (n : Nat) (ha : a.length = n) (hb : b.length = n)
    (sa : a.Pairwise (· ≤ ·)) (sb : b.Pairwise (· ≤ ·)) (i : Fin n) (v : Rat)
    (hv : (frechetLeftRaw op a b)[i.val]? = some v) :
    ∃ σ : Equiv.Perm (Fin n),
      (univ.filter (fun m : Fin n => op (a[m.val]'(by omega)) (b[(σ m).val]'(by omega)) < v)).card ≤ i.val ∧
      i.val + 1 ≤ (univ.filter (fun m : Fin n => op (a[m.val]'(by omega)) (b[(σ m).val]'(by omega)) ≤ v)).card := by
  obtain ⟨_, rfl⟩ := List.getElem?_eq_some_iff.mp hv
  obtain ⟨hub, j, hj, hatt⟩ := frechetLeftRaw_getElem_spec op a b (by omega) i.val (by omega)
  refine Frechet.frechet_left_tight op hop (fun m : Fin n => a[m.val]'(by omega))
    (fun m : Fin n => b[m.val]'(by omega)) (sorted_getElem_mono a sa n ha)
    (sorted_getElem_mono b sb n hb) i _ ?_
    ⟨⟨j, by omega⟩, ⟨i.val - j, by omega⟩, by simp; omega, hatt.symm⟩
  intro j' k' hjk
  have h1 := hub j'.val (by omega)
  simpa only [show i.val - j'.val = k'.val by omega] using h1

/-! ### the right bound -/

theorem antidiagR_getElem? (op : Rat → Rat → Rat) (A B : List Rat) (n i t : Nat)
    (hA : A.length = n) (hB : B.length = n) (hi : i < n) (ht : t < n - i) :
    (List.zipWith op (A.drop i) ((B.drop i).reverse))[t]? =
      some (op (A[i + t]'(by omega)) (B[n - 1 - t]'(by omega))) := by
  rw [List.getElem?_zipWith]
  have h1 : (A.drop i)[t]? = some (A[i + t]'(by omega)) := by
    rw [List.getElem?_drop]; exact List.getElem?_eq_getElem (by omega)
  have hlen : (B.drop i).length = n - i := by simp [hB]
  have h2 : ((B.drop i).reverse)[t]? = some (B[n - 1 - t]'(by omega)) := by
    rw [List.getElem?_reverse (by rw [hlen]; omega), hlen, List.getElem?_drop]
    have : i + (n - i - 1 - t) = n - 1 - t := by omega
    rw [this]; exact List.getElem?_eq_getElem (by omega)
  rw [h1, h2]

theorem frechetRightRaw_getElem_spec (op : Rat → Rat → Rat) (A B : List Rat) (n : Nat)
    (hA : A.length = n) (hB : B.length = n) (i : Nat) (hi : i < n) :
    (∀ t (ht : t < n - i), (frechetRightRaw op A B)[i]'(by rw [frechetRightRaw_length, hA]; exact hi) ≤
      op (A[i + t]'(by omega)) (B[n - 1 - t]'(by omega))) ∧
    (∃ t, ∃ ht : t < n - i, (frechetRightRaw op A B)[i]'(by rw [frechetRightRaw_length, hA]; exact hi) =
      op (A[i + t]'(by omega)) (B[n - 1 - t]'(by omega))) := by
  rw [frechetRightRaw_getElem]
  have hne : List.zipWith op (A.drop i) ((B.drop i).reverse) ≠ [] :=
    List.ne_nil_of_mem (List.mem_of_getElem? (antidiagR_getElem? op A B n i 0 hA hB hi (by omega)))
  obtain ⟨hmem, hlb⟩ := minL_spec 0 _ hne
  refine ⟨fun t ht => hlb _ (List.mem_of_getElem? (antidiagR_getElem? op A B n i t hA hB hi ht)), ?_⟩
  obtain ⟨t, htlt, ht⟩ := List.getElem_of_mem hmem
  have ht' : t < n - i := by simp [hA, hB] at htlt; omega
  have h1 := antidiagR_getElem? op A B n i t hA hB hi ht'
  rw [List.getElem?_eq_getElem htlt, ht] at h1
  exact ⟨t, ht', Option.some.inj h1⟩

theorem frechetRightRaw_spec (op : Rat → Rat → Rat) (A B : List Rat) (n : Nat)
    (hA : A.length = n) (hB : B.length = n) (i : Nat) (hi : i < n) :
    ∃ v, (frechetRightRaw op A B)[i]? = some v ∧
      (∀ t (ht : t < n - i), v ≤ op (A[i + t]'(by omega)) (B[n - 1 - t]'(by omega))) ∧
      (∃ t, ∃ ht : t < n - i, v = op (A[i + t]'(by omega)) (B[n - 1 - t]'(by omega))) :=
  ⟨_, List.getElem?_eq_getElem (by rw [frechetRightRaw_length]; omega),
    frechetRightRaw_getElem_spec op A B n hA hB i hi⟩

/-- **Frechet right validity on the model.** At most `n-1-i` outcomes exceed the `i`-th raw right
bound, for any selections below the sorted right bounds and ANY coupling. -/
theorem frechetRight_valid (op : Rat → Rat → Rat)
    (hop : ∀ p p' q q', p ≤ p' → q ≤ q' → op p q ≤ op p' q')
    (A B : List Rat) (n : Nat) (hA : A.length = n) (hB : B.length = n)
    (sA : A.Pairwise (· ≤ ·)) (sB : B.Pairwise (· ≤ ·))
    (x y : Fin n → Rat) (hx : ∀ m : Fin n, x m ≤ A[m.val]'(by omega))
    (hy : ∀ m : Fin n, y m ≤ B[m.val]'(by omega))
    (σ : Equiv.Perm (Fin n)) (i : Fin n) (v : Rat)
    (hv : (frechetRightRaw op A B)[i.val]? = some v) :
    (univ.filter (fun m : Fin n => v < op (x m) (y (σ m)))).card ≤ n - 1 - i.val := by
  obtain ⟨_, rfl⟩ := List.getElem?_eq_some_iff.mp hv
  obtain ⟨-, t, ht, hatt⟩ := frechetRightRaw_getElem_spec op A B n hA hB i.val i.isLt
  rw [hatt]
  calc _ ≤ (n - 1 - (i.val + t)) + (n - 1 - (n - 1 - t)) :=
        Frechet.frechet_right_valid op hop (fun m : Fin n => A[m.val]'(by omega))
          (fun m : Fin n => B[m.val]'(by omega)) x y (sorted_getElem_mono A sA n hA)
          (sorted_getElem_mono B sB n hB) hx hy σ ⟨i.val + t, by omega⟩ ⟨n - 1 - t, by omega⟩
    _ = n - 1 - i.val := by omega

/-- the raw right bound is already non-decreasing -/
theorem frechetRightRaw_sorted (op : Rat → Rat → Rat)
    (hop : ∀ p p' q q', p ≤ p' → q ≤ q' → op p q ≤ op p' q')
    (A B : List Rat) (hlen : A.length = B.length) (sA : A.Pairwise (· ≤ ·)) :
    (frechetRightRaw op A B).Pairwise (· ≤ ·) := by
  rw [List.pairwise_iff_getElem]
  intro i k hi hk hik
  rw [frechetRightRaw_length] at hi hk
  obtain ⟨hlb, -⟩ := frechetRightRaw_getElem_spec op A B A.length rfl hlen.symm i hi
  obtain ⟨-, t, ht, hatt⟩ := frechetRightRaw_getElem_spec op A B A.length rfl hlen.symm k hk
  rw [hatt]
  -- the term `op A[k+t] B[n-1-t]` attaining `right[k]` is above the term `op A[i+t] B[n-1-t]` of `right[i]`
  exact le_trans (hlb t (by omega))
    (hop _ _ _ _ (sorted_getElem_le sA (by omega) (by omega)) (le_refl _))

/-- **Frechet right bound is best possible on the model**: the dual extremal coupling of the
bounding selections `A`, `B` makes the `i`-th smallest outcome equal to `right[i]`. -/
theorem frechetRight_tight (op : Rat → Rat → Rat)
    (hop : ∀ p p' q q', p ≤ p' → q ≤ q' → op p q ≤ op p' q')
    (A B : List Rat) (n : Nat) (hA : A.length = n) (hB : B.length = n)
    (sA : A.Pairwise (· ≤ ·)) (sB : B.Pairwise (· ≤ ·)) (i : Fin n) (v : Rat)
    (hv : (frechetRightRaw op A B)[i.val]? = some v) :
    ∃ σ : Equiv.Perm (Fin n),
      (univ.filter (fun m : Fin n => v < op (A[m.val]'(by omega)) (B[(σ m).val]'(by omega)))).card ≤ n - 1 - i.val ∧
      n - i.val ≤ (univ.filter (fun m : Fin n => v ≤ op (A[m.val]'(by omega)) (B[(σ m).val]'(by omega)))).card := by
  obtain ⟨_, rfl⟩ := List.getElem?_eq_some_iff.mp hv
  obtain ⟨hlb, t, ht, hatt⟩ := frechetRightRaw_getElem_spec op A B n hA hB i.val i.isLt
  refine Frechet.frechet_right_tight op hop (fun m : Fin n => A[m.val]'(by omega))
    (fun m : Fin n => B[m.val]'(by omega)) (sorted_getElem_mono A sA n hA)
    (sorted_getElem_mono B sB n hB) i _ ?_
    ⟨⟨i.val + t, by omega⟩, ⟨n - 1 - t, by omega⟩, by simp; omega, hatt.symm⟩
  intro j' k' hjk
  have hj' := j'.isLt
  have hk' := k'.isLt
  have h1 := hlb (j'.val - i.val) (by omega)
  simpa only [show i.val + (j'.val - i.val) = j'.val by omega,
    show n - 1 - (j'.val - i.val) = k'.val by omega] using h1

/-- `left[i] ≤ right[i]` for the Frechet rule on well-formed operands -/
theorem frechetRaw_le (op : Rat → Rat → Rat)
    (hop : ∀ p p' q q', p ≤ p' → q ≤ q' → op p q ≤ op p' q')
    (a A b B : List Rat) (n : Nat) (ha : a.length = n) (hA : A.length = n) (hb : b.length = n) (hB : B.length = n)
    (sA : A.Pairwise (· ≤ ·)) (sB : B.Pairwise (· ≤ ·))
    (haA : ∀ i (h : i < n), a[i]'(by omega) ≤ A[i]'(by omega))
    (hbB : ∀ i (h : i < n), b[i]'(by omega) ≤ B[i]'(by omega))
    (i : Nat) (hi : i < n) :
    (frechetLeftRaw op a b)[i]'(by rw [frechetLeftRaw_length]; omega) ≤
      (frechetRightRaw op A B)[i]'(by rw [frechetRightRaw_length]; omega) := by
  obtain ⟨-, j, hj, hatt⟩ := frechetLeftRaw_getElem_spec op a b (by omega) i (by omega)
  obtain ⟨-, t, ht, hattR⟩ := frechetRightRaw_getElem_spec op A B n hA hB i hi
  rw [hatt, hattR]
  -- `a[j] ≤ A[j] ≤ A[i+t]` and `b[i-j] ≤ B[i-j] ≤ B[n-1-t]`
  exact hop _ _ _ _ (le_trans (haA j (by omega)) (sorted_getElem_le sA (by omega) (by omega)))
    (le_trans (hbB (i - j) (by omega)) (sorted_getElem_le sB (by omega) (by omega)))

/-- `frechet_op` returns the raw bounds themselves: its two `sort` calls are identities on
well-formed operands with a monotone `op` -/
theorem frechetOp_eq_raw (op : Rat → Rat → Rat)
    (hop : ∀ p p' q q', p ≤ p' → q ≤ q' → op p q ≤ op p' q')
    (x y : PB) (hl : x.left.length = y.left.length) (hr : x.right.length = y.right.length)
    (syl : y.left.Pairwise (· ≤ ·)) (sxr : x.right.Pairwise (· ≤ ·)) :
    frechetOp op x y = (frechetLeftRaw op x.left y.left, frechetRightRaw op x.right y.right) := by
  unfold frechetOp
  rw [sortR_of_sorted _ (frechetLeftRaw_sorted op hop _ _ hl syl),
      sortR_of_sorted _ (frechetRightRaw_sorted op hop _ _ hr sxr)]

/-! ### the two monotone operations the library feeds to `frechet_op` -/

theorem add_mono2 : ∀ p p' q q' : Rat, p ≤ p' → q ≤ q' → p + q ≤ p' + q' :=
  fun _ _ _ _ h1 h2 => add_le_add h1 h2

/-- multiplication clamped to the non-negative quadrant: monotone everywhere, equal to `*` on `≥ 0` -/
def mulPos (p q : Rat) : Rat := max p 0 * max q 0

theorem mulPos_mono2 : ∀ p p' q q' : Rat, p ≤ p' → q ≤ q' → mulPos p q ≤ mulPos p' q' := by
  intro p p' q q' h1 h2
  unfold mulPos
  exact mul_le_mul (max_le_max h1 (le_refl _)) (max_le_max h2 (le_refl _)) (le_max_right _ _)
    (le_max_right _ _)

theorem mulPos_eq (p q : Rat) (hp : 0 ≤ p) (hq : 0 ≤ q) : mulPos p q = p * q := by
  simp [mulPos, max_eq_left hp, max_eq_left hq]

theorem zipWith_congr_mem (f g : Rat → Rat → Rat) (l1 l2 : List Rat)
    (h : ∀ x ∈ l1, ∀ y ∈ l2, f x y = g x y) : List.zipWith f l1 l2 = List.zipWith g l1 l2 := by
  induction l1 generalizing l2 with
  | nil => simp
  | cons a t ih =>
    cases l2 with
    | nil => simp
    | cons b u =>
      simp only [List.zipWith_cons_cons]
      rw [h a (by simp) b (by simp), ih u (fun x hx y hy => h x (by simp [hx]) y (by simp [hy]))]

theorem frechetLeftRaw_mul_eq (a b : List Rat) (ha : ∀ x ∈ a, 0 ≤ x) (hb : ∀ x ∈ b, 0 ≤ x) :
    frechetLeftRaw (· * ·) a b = frechetLeftRaw mulPos a b := by
  unfold frechetLeftRaw
  apply List.map_congr_left
  intro i _
  congr 1
  apply zipWith_congr_mem
  intro x hx y hy
  rw [mulPos_eq x y (ha x (List.mem_of_mem_take hx)) (hb y (List.mem_of_mem_take (List.mem_reverse.mp hy)))]

theorem frechetRightRaw_mul_eq (a b : List Rat) (ha : ∀ x ∈ a, 0 ≤ x) (hb : ∀ x ∈ b, 0 ≤ x) :
    frechetRightRaw (· * ·) a b = frechetRightRaw mulPos a b := by
  unfold frechetRightRaw
  apply List.map_congr_left
  intro i _
  congr 1
  apply zipWith_congr_mem
  intro x hx y hy
  rw [mulPos_eq x y (ha x (List.mem_of_mem_drop hx)) (hb y (List.mem_of_mem_drop (List.mem_reverse.mp hy)))]

def NonNeg (p : PB) : Prop := (∀ v ∈ p.left, 0 ≤ v) ∧ (∀ v ∈ p.right, 0 ≤ v)

theorem frechetOp_mul_eq (X Y : PB) (hX : NonNeg X) (hY : NonNeg Y) :
    frechetOp (· * ·) X Y = frechetOp mulPos X Y := by
  unfold frechetOp
  rw [frechetLeftRaw_mul_eq X.left Y.left hX.1 hY.1, frechetRightRaw_mul_eq X.right Y.right hX.2 hY.2]

end Pun.PBox
