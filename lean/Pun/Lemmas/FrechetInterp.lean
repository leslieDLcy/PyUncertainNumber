import Pun.Model.FrechetInterp
/-!
# Fancy indexing with an `arange`: `a[s:e]` and `a[s-1:e-1:-1]` as `take` / `drop` / `reverse`
-/
namespace Pun.FrechetInterp
open Pun Pun.PBox

theorem pick_nonneg (a : List Rat) (k : Nat) (h : k < a.length) :
    (if 0 ≤ (k : Int) then a.getD (k : Int).toNat 0 else a.getD (a.length - (-(k : Int)).toNat) 0) = a[k] := by
  simp [List.getD_eq_getElem?_getD, h]

theorem gather_arange_up (a : List Rat) (s e : Nat) (he : e ≤ a.length) :
    gather a (arange (s : Int) (e : Int) 1) = (a.take e).drop s := by
  unfold gather arange
  simp only [if_true, List.map_map]
  apply List.ext_getElem
  · simp; omega
  · intro t h1 h2
    simp only [List.length_drop, List.length_take] at h2
    simp only [List.getElem_map, List.getElem_range, Function.comp]
    have e' : (s : Int) + Int.ofNat t = ((s + t : Nat) : Int) := by simp
    rw [e', pick_nonneg a (s + t) (by omega), List.getElem_drop, List.getElem_take]

theorem gather_arange_down (a : List Rat) (s e : Nat) (hs : s ≤ a.length) :
    gather a (arange ((s : Int) - 1) ((e : Int) - 1) (-1)) = ((a.take s).drop e).reverse := by
  unfold gather arange
  simp only [show ((-1 : Int) = 1) = False by simp, if_false, if_true, List.map_map]
  apply List.ext_getElem
  · simp; omega
  · intro t h1 h2
    simp only [List.length_reverse, List.length_drop, List.length_take] at h2
    simp only [List.getElem_map, List.getElem_range, Function.comp]
    have e' : (s : Int) - 1 - Int.ofNat t = ((s - 1 - t : Nat) : Int) := by
      simp; omega
    rw [e', pick_nonneg a (s - 1 - t) (by omega), List.getElem_reverse, List.getElem_drop,
      List.getElem_take]
    congr 1
    simp only [List.length_drop, List.length_take]; omega

end Pun.FrechetInterp
