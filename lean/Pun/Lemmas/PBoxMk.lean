import Pun.Lemmas.PBoxFrechet
import Pun.Lemmas.Except
import Mathlib.Data.List.Forall2
/-!
# The constructor `mk` on ordered bound lists

`mk` first decides whether to exchange its two arguments (`lexGe` for Python lists, `allGe` for
arrays) and then checks lengths, monotonicity and crossing (`mkChecked`).  For lists of the right
length that are sorted and ordered step by step the checks pass (`mkChecked_ok`); the switch fires
on such a pair only when the two lists are equal (`eq_of_mkSwitch_of_le`, hence `mk_ok_of_le`), and it does fire when the pair is
handed over in the wrong order (`mk_list_ge`).  Longer lists are condensed first
(`mk_ok_of_boundSteps`); `mk_inv` reads off what a successful call has checked, whatever its arguments.
-/
namespace Pun.PBox
open Pun List

/-! ## the left/right switch -/

theorem lexGe_of_ge {l r : List Rat} (h : Forall₂ (· ≤ ·) r l) : lexGe l r = true := by
  induction h with
  | nil => rfl
  | @cons b a t s hba _ ih =>
    unfold lexGe
    by_cases h1 : a > b
    · simp [h1]
    · have : ¬ a < b := not_lt.mpr hba
      simp [h1, this, ih]

theorem eq_of_lexGe_of_le {l r : List Rat} (h : Forall₂ (· ≤ ·) l r) (hge : lexGe l r = true) :
    l = r := by
  induction h with
  | nil => rfl
  | @cons a b s t hab _ ih =>
    unfold lexGe at hge
    have hnot : ¬ a > b := not_lt.mpr hab
    simp only [hnot, if_false] at hge
    by_cases hlt : a < b
    · simp [hlt] at hge
    · simp only [hlt, if_false] at hge
      rw [le_antisymm hab (not_lt.mp hlt), ih hge]

theorem eq_of_allGe_of_le {l r : List Rat} (h : Forall₂ (· ≤ ·) l r) (hge : allGe l r = true) :
    l = r := by
  induction h with
  | nil => rfl
  | @cons a b s t hab _ ih =>
    simp only [allGe, List.zip_cons_cons, List.all_cons, Bool.and_eq_true, decide_eq_true_eq] at hge
    have : allGe s t = true := by simpa [allGe] using hge.2
    rw [le_antisymm hab hge.1, ih this]

/-! ## the checks -/

theorem isIncreasing_iff (l : List Rat) : isIncreasing l = true ↔ l.Pairwise (· ≤ ·) := by
  rw [← isChain_iff_pairwise]
  induction l with
  | nil => simp [isIncreasing]
  | cons a t ih =>
    cases t with
    | nil => simp [isIncreasing]
    | cons b u => simp only [isIncreasing, Bool.and_eq_true, decide_eq_true_eq, ih, isChain_cons_cons]

/-- the crossing test `np.any(left > right)` on bounds of equal length -/
theorem cross_false_iff {l r : List Rat} (hlen : l.length = r.length) :
    (l.zip r).any (fun p => decide (p.1 > p.2)) = false ↔ Forall₂ (· ≤ ·) l r := by
  simp [forall₂_iff_zip, hlen]

theorem no_cross_of_le {l r : List Rat} (h : Forall₂ (· ≤ ·) l r) :
    (l.zip r).any (fun p => decide (p.1 > p.2)) = false :=
  (cross_false_iff h.length_eq).mpr h

theorem no_cross (l r : List Rat) (hlen : l.length = r.length)
    (hle : ∀ i (h : i < l.length), l[i] ≤ r[i]'(by omega)) :
    (l.zip r).any (fun p => decide (p.1 > p.2)) = false :=
  no_cross_of_le (forall₂_le_of_getElem hlen hle)

/-! ## `bound_steps_check`: `condense`, `boundSteps` -/

theorem condense_length (n : Nat) (b : List Rat) : (condense n b).length = n := by simp [condense]

theorem condenseIdx_lt (len n k : Nat) (hlen : 0 < len) (hk : k < n) : condenseIdx len n k < len := by
  unfold condenseIdx
  split
  · exact hlen
  · have : k * (len - 1) / (n - 1) ≤ len - 1 :=
      Nat.div_le_of_le_mul (Nat.mul_le_mul_right _ (by omega))
    omega

theorem condenseIdx_mono (len n k k' : Nat) (h : k ≤ k') : condenseIdx len n k ≤ condenseIdx len n k' := by
  unfold condenseIdx
  split
  · exact le_refl _
  · exact Nat.div_le_div_right (Nat.mul_le_mul_right _ h)

/-- condensation index for `n²` values down to `n`: entry `k(n+1)` -/
theorem condense_index (n k : Nat) (hn : 2 ≤ n) : condenseIdx (n * n) n k = k * (n + 1) := by
  unfold condenseIdx
  have h1 : ¬ n ≤ 1 := by omega
  simp only [h1, if_false]
  have h2 : n * n - 1 = (n + 1) * (n - 1) := by
    rw [← Nat.mul_self_sub_mul_self_eq n 1, Nat.mul_one]
  rw [h2, ← Nat.mul_assoc, Nat.mul_div_cancel _ (by omega : 0 < n - 1)]

/-- … which lies in the `k`-th block of `n` consecutive order statistics -/
theorem condense_block (n k : Nat) (hn : 2 ≤ n) (hk : k < n) :
    k * n ≤ condenseIdx (n * n) n k ∧ condenseIdx (n * n) n k ≤ k * n + (n - 1) := by
  rw [condense_index n k hn, Nat.mul_succ]
  omega

theorem condense_getElem? (n : Nat) (b : List Rat) (hb : 0 < b.length) (k : Nat) (hk : k < n) :
    (condense n b)[k]? = some (b[condenseIdx b.length n k]'(condenseIdx_lt _ _ _ hb hk)) := by
  unfold condense
  rw [List.getElem?_map, List.getElem?_range hk, Option.map_some, ← List.getElem_eq_getD]

theorem condense_getElem (n : Nat) (b : List Rat) (hb : 0 < b.length) (k : Nat) (hk : k < (condense n b).length) :
    (condense n b)[k] = b[condenseIdx b.length n k]'(condenseIdx_lt _ _ _ hb (by rwa [condense_length] at hk)) :=
  Option.some.inj ((List.getElem?_eq_getElem hk).symm.trans
    (condense_getElem? n b hb k (by rwa [condense_length] at hk)))

theorem condense_sorted (n : Nat) (b : List Rat) (hb : 0 < b.length) (s : b.Pairwise (· ≤ ·)) :
    (condense n b).Pairwise (· ≤ ·) := by
  rw [List.pairwise_iff_getElem]
  intro i j hi hj hij
  rw [condense_getElem n b hb i hi, condense_getElem n b hb j hj]
  exact sorted_getElem_le s (condenseIdx_mono _ _ _ _ (le_of_lt hij)) _

theorem condense_forall₂ (n : Nat) {l r : List Rat} (h : Forall₂ (· ≤ ·) l r) :
    Forall₂ (· ≤ ·) (condense n l) (condense n r) := by
  have hlen := h.length_eq
  unfold condense
  rw [hlen, forall₂_map_left_iff, forall₂_map_right_iff]
  refine forall₂_same.mpr fun k _ => ?_
  rw [getD_eq_getElem?_getD, getD_eq_getElem?_getD]
  by_cases hj : condenseIdx r.length n k < r.length
  · rw [getElem?_eq_getElem (by omega), getElem?_eq_getElem hj]
    exact getElem_le_of_forall₂ h _ _ hj
  · rw [getElem?_eq_none (by omega), getElem?_eq_none (by omega)]

theorem boundSteps_eq (n : Nat) (b : List Rat) (h : b.length = n) : boundSteps n b = .ok b := by
  simp [boundSteps, h]

theorem boundSteps_condense (n : Nat) (b : List Rat) (h : n < b.length) : boundSteps n b = .ok (condense n b) := by
  simp [boundSteps, h]

theorem boundSteps_length {steps : Nat} {b b' : List Rat} (h : boundSteps steps b = .ok b') : b'.length = steps := by
  unfold boundSteps at h
  split at h
  · cases h; exact condense_length _ _
  · split at h
    · cases h
    · cases h; omega

theorem boundSteps_forall₂ {steps : Nat} {l r l' r' : List Rat} (h : Forall₂ (· ≤ ·) l r)
    (hl : boundSteps steps l = .ok l') (hr : boundSteps steps r = .ok r') : Forall₂ (· ≤ ·) l' r' := by
  unfold boundSteps at hl hr
  rw [h.length_eq] at hl
  split at hr
  · rename_i hgt
    rw [if_pos hgt] at hl
    cases hl; cases hr
    exact condense_forall₂ _ h
  · rename_i hgt
    rw [if_neg hgt] at hl
    split at hr
    · cases hr
    · rename_i hlt
      rw [if_neg hlt] at hl
      cases hl; cases hr
      exact h

/-! ## the constructor -/

def mkSwitch (lists : Bool) (l r : List Rat) : Bool :=
  if lists then lexGe l r else (if l.length = r.length then allGe l r else false)

def mkChecked (steps : Nat) (l r : List Rat) : Except Err PB := do
  let l ← boundSteps steps l
  let r ← boundSteps steps r
  if l.length ≠ r.length then .error .Assertion
  else if !(isIncreasing l) || !(isIncreasing r) then .error .Other
  else if (l.zip r).any (fun p => decide (p.1 > p.2)) then .error .Other
  else .ok ⟨l, r⟩

theorem mk_eq (steps : Nat) (lists : Bool) (l r : List Rat) :
    mk steps lists l r = if mkSwitch lists l r then mkChecked steps r l else mkChecked steps l r := by
  show (match (if mkSwitch lists l r then (r, l) else (l, r)) with
    | (l, r) => mkChecked steps l r) = _
  cases mkSwitch lists l r <;> rfl

theorem eq_of_mkSwitch_of_le {lists : Bool} {l r : List Rat} (h : Forall₂ (· ≤ ·) l r)
    (hsw : mkSwitch lists l r = true) : l = r := by
  cases lists
  · rw [mkSwitch, if_neg Bool.false_ne_true, if_pos h.length_eq] at hsw
    exact eq_of_allGe_of_le h hsw
  · exact eq_of_lexGe_of_le h hsw

theorem mkChecked_of_boundSteps (n : Nat) (l r : List Rat) {L R : List Rat} (hl : boundSteps n l = .ok L)
    (hr : boundSteps n r = .ok R) (sL : L.Pairwise (· ≤ ·)) (sR : R.Pairwise (· ≤ ·)) (h : Forall₂ (· ≤ ·) L R) :
    mkChecked n l r = .ok ⟨L, R⟩ := by
  simp [mkChecked, hl, hr, h.length_eq, (isIncreasing_iff L).mpr sL, (isIncreasing_iff R).mpr sR,
    no_cross_of_le h, bind, Except.bind]

theorem mkChecked_ok (n : Nat) (l r : List Rat) (hl : l.length = n) (hr : r.length = n)
    (sl : l.Pairwise (· ≤ ·)) (sr : r.Pairwise (· ≤ ·)) (h : Forall₂ (· ≤ ·) l r) :
    mkChecked n l r = .ok ⟨l, r⟩ :=
  mkChecked_of_boundSteps n l r (boundSteps_eq n l hl) (boundSteps_eq n r hr) sl sr h

theorem mk_ok_of_boundSteps (n : Nat) (lists : Bool) (l r : List Rat) {L R : List Rat} (h : Forall₂ (· ≤ ·) l r)
    (hl : boundSteps n l = .ok L) (hr : boundSteps n r = .ok R) (sL : L.Pairwise (· ≤ ·)) (sR : R.Pairwise (· ≤ ·)) :
    mk n lists l r = .ok ⟨L, R⟩ := by
  rw [mk_eq]
  split
  next hsw =>
    obtain rfl := eq_of_mkSwitch_of_le h hsw
    obtain rfl := Except.ok.inj (hl.symm.trans hr)
    exact mkChecked_of_boundSteps n l l hl hl sL sL (boundSteps_forall₂ h hl hl)
  next => exact mkChecked_of_boundSteps n l r hl hr sL sR (boundSteps_forall₂ h hl hr)

theorem mk_ok_of_le (n : Nat) (lists : Bool) (l r : List Rat) (hl : l.length = n) (hr : r.length = n)
    (sl : l.Pairwise (· ≤ ·)) (sr : r.Pairwise (· ≤ ·)) (h : Forall₂ (· ≤ ·) l r) :
    mk n lists l r = .ok ⟨l, r⟩ :=
  mk_ok_of_boundSteps n lists l r h (boundSteps_eq n l hl) (boundSteps_eq n r hr) sl sr

theorem mk_ok_condense (n : Nat) (lists : Bool) (l r : List Rat) (hl : n < l.length)
    (sl : l.Pairwise (· ≤ ·)) (sr : r.Pairwise (· ≤ ·)) (h : Forall₂ (· ≤ ·) l r) :
    mk n lists l r = .ok ⟨condense n l, condense n r⟩ :=
  mk_ok_of_boundSteps n lists l r h (boundSteps_condense n l hl) (boundSteps_condense n r (h.length_eq ▸ hl))
    (condense_sorted n l (by omega) sl) (condense_sorted n r (by have := h.length_eq; omega) sr)

theorem mk_list_ge (n : Nat) (l r : List Rat) (hl : l.length = n) (hr : r.length = n)
    (sl : l.Pairwise (· ≤ ·)) (sr : r.Pairwise (· ≤ ·)) (h : Forall₂ (· ≤ ·) r l) :
    mk n true l r = .ok ⟨r, l⟩ := by
  have hsw : mkSwitch true l r = true := lexGe_of_ge h
  rw [mk_eq, if_pos hsw]
  exact mkChecked_ok n r l hr hl sr sl h

theorem mk_arr_ok (n : Nat) (l r : List Rat) (hl : l.length = n) (hr : r.length = n)
    (sl : l.Pairwise (· ≤ ·)) (sr : r.Pairwise (· ≤ ·))
    (hle : ∀ i (h : i < l.length), l[i] ≤ r[i]'(by omega)) :
    mk n false l r = .ok ⟨l, r⟩ :=
  mk_ok_of_le n false l r hl hr sl sr (forall₂_le_of_getElem (hl.trans hr.symm) hle)

theorem mk_list_ok (n : Nat) (l r : List Rat) (hl : l.length = n) (hr : r.length = n)
    (sl : l.Pairwise (· ≤ ·)) (sr : r.Pairwise (· ≤ ·))
    (hle : ∀ i (h : i < l.length), l[i] ≤ r[i]'(by omega)) :
    mk n true l r = .ok ⟨l, r⟩ :=
  mk_ok_of_le n true l r hl hr sl sr (forall₂_le_of_getElem (hl.trans hr.symm) hle)

theorem mk_inv {steps : Nat} {lists : Bool} {l r : List Rat} {P : PB} (h : mk steps lists l r = .ok P) :
    boundSteps steps (if mkSwitch lists l r then r else l) = .ok P.left ∧
    boundSteps steps (if mkSwitch lists l r then l else r) = .ok P.right ∧
    P.left.Pairwise (· ≤ ·) ∧ P.right.Pairwise (· ≤ ·) ∧ Forall₂ (· ≤ ·) P.left P.right := by
  have h' : mkChecked steps (if mkSwitch lists l r then r else l) (if mkSwitch lists l r then l else r) = .ok P := by
    rw [← h, mk_eq]
    cases mkSwitch lists l r <;> rfl
  obtain ⟨l', h1, h'⟩ := bind_ok_inv h'
  obtain ⟨r', h2, h'⟩ := bind_ok_inv h'
  split at h'
  · cases h'
  · rename_i hlen
    split at h'
    · cases h'
    · rename_i hinc
      split at h'
      · cases h'
      · rename_i hcross
        cases h'
        simp only [Bool.or_eq_true, Bool.not_eq_true', not_or, Bool.not_eq_false] at hinc
        exact ⟨h1, h2, (isIncreasing_iff _).mp hinc.1, (isIncreasing_iff _).mp hinc.2,
          (cross_false_iff (not_not.mp hlen)).mp (Bool.eq_false_iff.mpr hcross)⟩

end Pun.PBox
