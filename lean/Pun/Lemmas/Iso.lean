import Pun.Model.Iso
import Pun.Lemmas.Hull
import Pun.Lemmas.PBoxNeg
import Pun.Lemmas.WellFormed
import Pun.Props.C01
import Mathlib.Data.List.Sort
import Mathlib.Data.List.Perm.Basic
import Mathlib.Tactic.Linarith
import Mathlib.Algebra.Order.Field.Rat
import Mathlib.Data.List.Forall2
import Mathlib.Tactic.Ring
/-!
# Lemmas for C12 (inclusion isotonicity)

* `Pun.Arith.binop_II_*`: what the interval model returns on two scalar intervals (shared with C07);
* `LE`, pointwise `≤` of lists, and its relators; `sort_mono`: a pointwise-smaller list has a pointwise-smaller
  sort, by the rank characterisation `PBox.sorted_getElem_le_iff` (DESIGN-round0.md Appendix A.2);
* `PSub` (`P ⊑ Q`), `PairSub`; the combination rules of `operation.py` are isotone: `iso_frechetOp` for any
  operation monotone in both arguments, without well-formedness; `iso_perfectOp`, `iso_oppositeOp`,
  `iso_independentOp`, `iso_naiveOp` for any operation with the corner-hull property `Hull` (`+`, `−`, `×`);
* `mk_iso`: the constructor is isotone on the raw results of the rules; `add_iso`;
* `levelValue_mono`, `stackBound_mono`: the generalised inverse of the cumulated mass (`stacking`) is monotone
  in the values (`geninv_antitone` of DESIGN-round0.md).
-/
namespace Pun.Arith

/-! ## the interval model on two scalar intervals

`binop` on two scalar intervals unfolds, by evaluation of its shape tests, to one call of the interval constructor
`mkIV none [l] [h]`. -/

theorem binop_II_add (a b c d : Rat) (hab : a ≤ b) (hcd : c ≤ d) :
    binop .add (.I a b) (.I c d) = .ok (.I (a + c) (b + d)) := mkIV_scalar (add_le_add hab hcd)

theorem binop_II_sub (a b c d : Rat) (hab : a ≤ b) (hcd : c ≤ d) :
    binop .sub (.I a b) (.I c d) = .ok (.I (a - d) (b - c)) := mkIV_scalar (sub_le_sub hab hcd)

theorem binop_II_mul (a b c d : Rat) (hab : a ≤ b) (hcd : c ≤ d) :
    binop .mul (.I a b) (.I c d) = .ok (.I (min4 (a*c) (a*d) (b*c) (b*d)) (max4 (a*c) (a*d) (b*c) (b*d))) := by
  have e : binop .mul (.I a b) (.I c d) = finishTable (none, [mulTable a b c d]) := rfl
  have hv := mul_hull a b c d a c le_rfl hab le_rfl hcd
  rw [e, mulTable_exact a b c d hab hcd]
  exact mkIV_scalar (hv.1.trans hv.2)

theorem binop_II_div_zero (a b c d : Rat) (hz : c ≤ 0 ∧ 0 ≤ d) :
    binop .div (.I a b) (.I c d) = .error .ZeroDivision := by
  simp [binop, opdIV, forward, divide, straddles, IV.ofI, hz.1, hz.2, bind, Except.bind]

theorem not_straddle_cases {c d : Rat} (hz : ¬ (c ≤ 0 ∧ 0 ≤ d)) : 0 < c ∨ d < 0 := by
  by_contra h
  exact hz ⟨not_lt.mp (mt Or.inl h), not_lt.mp (mt Or.inr h)⟩

theorem binop_II_div (a b c d : Rat) (hab : a ≤ b) (hcd : c ≤ d) (h0 : 0 < c ∨ d < 0) :
    ∃ l h, binop .div (.I a b) (.I c d) = .ok (.I l h) ∧
      (∀ x y, a ≤ x → x ≤ b → c ≤ y → y ≤ d → l ≤ x / y ∧ x / y ≤ h) ∧
      (∃ x y, a ≤ x ∧ x ≤ b ∧ c ≤ y ∧ y ≤ d ∧ x / y = l) ∧
      (∃ x y, a ≤ x ∧ x ≤ b ∧ c ≤ y ∧ y ≤ d ∧ x / y = h) := by
  obtain ⟨l, h, htab, hs, hl, hh⟩ := divTable_sound a b c d hab hcd h0
  have hv := hs a c le_rfl hab le_rfl hcd
  have hst : straddles (IV.ofI c d) = false := by
    rcases h0 with h | h <;> simp [straddles, IV.ofI, not_le.mpr h]
  have e : binop .div (.I a b) (.I c d) = finishTable (none, [unopt (divTable a b c d)]) := by
    show (divide (IV.ofI a b) (IV.ofI c d) >>= finishTable) = _
    unfold divide
    rw [hst]
    rfl
  rw [e, htab]
  exact ⟨l, h, mkIV_scalar (hv.1.trans hv.2), hs, hl, hh⟩

end Pun.Arith

namespace Pun.Iso
open Pun List Pun.PBox

/-! ## pointwise order of lists -/

abbrev LE (l l' : List Rat) : Prop := List.Forall₂ (· ≤ ·) l l'

theorem LE.refl (l : List Rat) : LE l l := List.forall₂_refl l

theorem LE.trans {a b c : List Rat} (h1 : LE a b) (h2 : LE b c) : LE a c := by
  induction h1 generalizing c with
  | nil => exact h2
  | cons hab _ ih =>
    cases h2 with
    | cons hbc htl => exact .cons (le_trans hab hbc) (ih htl)

theorem forall₂_getElem? {α β : Type} {R : α → β → Prop} {l : List α} {l' : List β} (h : Forall₂ R l l') {i : Nat} {a : α}
    (ha : l[i]? = some a) : ∃ b, l'[i]? = some b ∧ R a b := by
  induction h generalizing i with
  | nil => simp at ha
  | cons hab _ ih =>
    cases i with
    | zero =>
      cases ha
      exact ⟨_, rfl, hab⟩
    | succ j => exact ih ha

theorem leL_iff (l l' : List Rat) : leL l l' = true ↔ LE l l' := by
  induction l generalizing l' with
  | nil => cases l' <;> simp [leL, LE]
  | cons a s ih =>
    cases l' with
    | nil => simp [leL, LE]
    | cons b t => simp [leL, LE, ih t]

theorem LE.map {f : Rat → Rat} (hf : ∀ x y, x ≤ y → f x ≤ f y) {l l' : List Rat} (h : LE l l') :
    LE (l.map f) (l'.map f) := rel_map (fun _ _ hxy => hf _ _ hxy) h

theorem LE.map_anti {f : Rat → Rat} (hf : ∀ x y, x ≤ y → f y ≤ f x) {l l' : List Rat} (h : LE l l') :
    LE (l'.map f) (l.map f) := (rel_map (P := fun x y => y ≤ x) (fun _ _ hxy => hf _ _ hxy) h).flip

theorem LE_map_of_le {α : Type} (l : List α) (f g : α → Rat) (h : ∀ x ∈ l, f x ≤ g x) :
    LE (l.map f) (l.map g) := forall₂_map_left_iff.2 (forall₂_map_right_iff.2 (forall₂_same.2 h))

theorem LE.reverse {l l' : List Rat} (h : LE l l') : LE l.reverse l'.reverse :=
  List.forall₂_reverse_iff.mpr h

theorem LE.take {l l' : List Rat} (h : LE l l') (n : Nat) : LE (l.take n) (l'.take n) := List.forall₂_take n h
theorem LE.drop {l l' : List Rat} (h : LE l l') (n : Nat) : LE (l.drop n) (l'.drop n) := List.forall₂_drop n h

def Mono2 (op : Rat → Rat → Rat) : Prop := ∀ p p' q q', p ≤ p' → q ≤ q' → op p q ≤ op p' q'

theorem LE.zipWith {f : Rat → Rat → Rat} (hf : Mono2 f) {a a' b b' : List Rat} (ha : LE a a') (hb : LE b b') :
    LE (List.zipWith f a b) (List.zipWith f a' b') := forall₂_zipWith ha hb hf

theorem min_mono2 : Mono2 min := fun _ _ _ _ h1 h2 => min_le_min h1 h2
theorem max_mono2 : Mono2 max := fun _ _ _ _ h1 h2 => max_le_max h1 h2

theorem foldl_mono {f : Rat → Rat → Rat} (hf : Mono2 f) {l l' : List Rat} (h : LE l l') {x x' : Rat} (hx : x ≤ x') :
    l.foldl f x ≤ l'.foldl f x' := by
  induction h generalizing x x' with
  | nil => exact hx
  | cons hab _ ih => exact ih (hf _ _ _ _ hx hab)

theorem maxL_mono {l l' : List Rat} (h : LE l l') (d : Rat) : maxL d l ≤ maxL d l' := by
  cases h with
  | nil => exact le_rfl
  | cons hab htl => exact foldl_mono max_mono2 htl hab

theorem minL_mono {l l' : List Rat} (h : LE l l') (d : Rat) : minL d l ≤ minL d l' := by
  cases h with
  | nil => exact le_rfl
  | cons hab htl => exact foldl_mono min_mono2 htl hab

/-- order statistics are monotone: pointwise-smaller list has pointwise-smaller sort -/
theorem sort_mono (l l' s s' : List ℚ) (hlen : l.length = l'.length)
    (hle : ∀ i (h : i < l.length), l[i] ≤ l'[i]'(hlen ▸ h))
    (hp : s ~ l) (hp' : s' ~ l') (hs : s.Pairwise (· ≤ ·)) (hs' : s'.Pairwise (· ≤ ·))
    (i : ℕ) (hi : i < s.length) (hi' : i < s'.length) : s[i] ≤ s'[i] :=
  getElem_le_of_forall₂ (forall₂_of_perm_sorted (forall₂_le_of_getElem hlen hle) hp hp' hs hs') i hi hi'

/-! ## containment of p-boxes; the combination rules of `operation.py` are isotone -/

/-- `P ⊑ Q`: `Q` contains `P` -/
def PSub (P Q : PB) : Prop := LE Q.left P.left ∧ LE P.right Q.right

theorem pbSub_iff (P Q : PB) : pbSub P Q = true ↔ PSub P Q := by
  simp [pbSub, PSub, leL_iff]

theorem PSub.refl (P : PB) : PSub P P := ⟨LE.refl _, LE.refl _⟩
theorem PSub.trans {P Q R : PB} (h1 : PSub P Q) (h2 : PSub Q R) : PSub P R :=
  ⟨LE.trans h2.1 h1.1, LE.trans h1.2 h2.2⟩

def PairSub (p q : List Rat × List Rat) : Prop := LE q.1 p.1 ∧ LE p.2 q.2

theorem frechetLeftRaw_mono (op : Rat → Rat → Rat) (hop : Mono2 op) {a a' b b' : List Rat}
    (ha : LE a a') (hb : LE b b') : LE (frechetLeftRaw op a b) (frechetLeftRaw op a' b') := by
  unfold frechetLeftRaw
  rw [← ha.length_eq]
  exact LE_map_of_le _ _ _ fun i _ => maxL_mono (LE.zipWith hop (ha.take _) (hb.take _).reverse) 0

theorem frechetRightRaw_mono (op : Rat → Rat → Rat) (hop : Mono2 op) {a a' b b' : List Rat}
    (ha : LE a a') (hb : LE b b') : LE (frechetRightRaw op a b) (frechetRightRaw op a' b') := by
  unfold frechetRightRaw
  rw [← ha.length_eq]
  exact LE_map_of_le _ _ _ fun i _ => minL_mono (LE.zipWith hop (ha.drop _) (hb.drop _).reverse) 0

/-- **Frechet rule is isotone** for every operation monotone in both arguments (no well-formedness needed) -/
theorem iso_frechetOp (op : Rat → Rat → Rat) (hop : Mono2 op) {X X' Y Y' : PB}
    (hX : PSub X X') (hY : PSub Y Y') : PairSub (frechetOp op X Y) (frechetOp op X' Y') :=
  ⟨sortR_forall₂ (frechetLeftRaw_mono op hop hX.1 hY.1), sortR_forall₂ (frechetRightRaw_mono op hop hX.2 hY.2)⟩

/-! ### four-corner rules

The step `k` of a p-box is the focal interval `(left[k], right[k])`.  The perfect, opposite and independent rules
combine focal intervals of the operands by the corner hull of `op`, which is nested for nested intervals. -/

def Hull (op : Rat → Rat → Rat) : Prop :=
  ∀ a b c d x y, a ≤ x → x ≤ b → c ≤ y → y ≤ d →
    min4 (op a c) (op a d) (op b c) (op b d) ≤ op x y ∧ op x y ≤ max4 (op a c) (op a d) (op b c) (op b d)

theorem hull_mul : Hull (· * ·) := mul_corner_hull

theorem hull_add : Hull (· + ·) := by
  intro a b c d x y h1 h2 h3 h4
  simp only [min4, max4, min_le_iff, le_max_iff]
  exact ⟨Or.inl (Or.inl (Or.inl (by linarith))), Or.inr (by linarith)⟩

theorem hull_sub : Hull (· - ·) := by
  intro a b c d x y h1 h2 h3 h4
  simp only [min4, max4, min_le_iff, le_max_iff]
  exact ⟨Or.inl (Or.inl (Or.inr (by linarith))), Or.inl (Or.inr (by linarith))⟩

def corners (f : Rat → Rat → Rat → Rat → Rat) (op : Rat → Rat → Rat) (p q : Rat × Rat) : Rat :=
  f (op p.1 q.1) (op p.1 q.2) (op p.2 q.1) (op p.2 q.2)

def Nest (p p' : Rat × Rat) : Prop := p'.1 ≤ p.1 ∧ p.1 ≤ p.2 ∧ p.2 ≤ p'.2

/-- every corner of the inner pair is a point of the outer pair -/
theorem corner_iso {op : Rat → Rat → Rat} (hop : Hull op) {p p' q q' : Rat × Rat} (hp : Nest p p') (hq : Nest q q') :
    corners min4 op p' q' ≤ corners min4 op p q ∧ corners max4 op p q ≤ corners max4 op p' q' := by
  have k : ∀ x y, p.1 ≤ x → x ≤ p.2 → q.1 ≤ y → y ≤ q.2 → _ := fun x y h1 h2 h3 h4 =>
    hop p'.1 p'.2 q'.1 q'.2 x y (le_trans hp.1 h1) (le_trans h2 hp.2.2) (le_trans hq.1 h3) (le_trans h4 hq.2.2)
  have ll := k p.1 q.1 le_rfl hp.2.1 le_rfl hq.2.1
  have lh := k p.1 q.2 le_rfl hp.2.1 hq.2.1 le_rfl
  have hl := k p.2 q.1 hp.2.1 le_rfl le_rfl hq.2.1
  have hh := k p.2 q.2 hp.2.1 le_rfl hq.2.1 le_rfl
  exact ⟨le_min (le_min (le_min ll.1 lh.1) hl.1) hh.1, max_le (max_le (max_le ll.2 lh.2) hl.2) hh.2⟩

theorem nest_zip {l r l' r' : List Rat} (h : LE l r) (hl : LE l' l) (hr : LE r r') :
    Forall₂ Nest (l.zip r) (l'.zip r') := by
  induction h generalizing l' r' with
  | nil => cases hl; cases hr; exact .nil
  | cons hab _ ih =>
    cases hl with
    | cons ha hl =>
      cases hr with
      | cons hb hr => exact .cons ⟨ha, hab, hb⟩ (ih hl hr)

theorem zip4_le_zip4 {f g : Rat → Rat → Rat → Rat → Rat} (h : ∀ a b c d, f a b c d ≤ g a b c d) (a b c d : List Rat) :
    LE (zip4 f a b c d) (zip4 g a b c d) := by
  rw [zip4_eq_zipWith, zip4_eq_zipWith]
  exact forall₂_zipWith (forall₂_refl (Rₐ := Eq) _) (forall₂_refl (Rₐ := Eq) _) fun _ _ _ _ e1 e2 => e1 ▸ e2 ▸ h _ _ _ _

theorem zip4_zipWith (f : Rat → Rat → Rat → Rat → Rat) (op : Rat → Rat → Rat) : ∀ (xl xr yl yr : List Rat),
    zip4 f (zipWith op xl yl) (zipWith op xl yr) (zipWith op xr yl) (zipWith op xr yr) =
      zipWith (corners f op) (xl.zip xr) (yl.zip yr)
  | [], _, _, _ => by simp [zip4]
  | _ :: _, [], yl, yr => by cases yl <;> cases yr <;> simp [zip4]
  | _ :: _, _ :: _, [], _ => by simp [zip4]
  | _ :: _, _ :: _, _ :: _, [] => by simp [zip4]
  | a :: xl, b :: xr, c :: yl, d :: yr => by simp [zip4, corners, zip4_zipWith f op xl xr yl yr]

theorem cornerPair_iso (op : Rat → Rat → Rat) (hop : Hull op)
    {xl xr yl yr xl' xr' yl' yr' : List Rat}
    (hx : LE xl xr) (hy : LE yl yr) (hxl : LE xl' xl) (hxr : LE xr xr') (hyl : LE yl' yl) (hyr : LE yr yr') :
    PairSub (cornerPair op xl xr yl yr) (cornerPair op xl' xr' yl' yr') := by
  have nx := nest_zip hx hxl hxr
  have ny := nest_zip hy hyl hyr
  have nx' : Forall₂ (fun p' p => Nest p p') (xl'.zip xr') (xl.zip xr) := nx.flip
  have ny' : Forall₂ (fun q' q => Nest q q') (yl'.zip yr') (yl.zip yr) := ny.flip
  simp only [cornerPair, PairSub, zip4_zipWith]
  exact ⟨forall₂_zipWith nx' ny' fun _ _ _ _ hp hq => (corner_iso hop hp hq).1,
    forall₂_zipWith nx ny fun _ _ _ _ hp hq => (corner_iso hop hp hq).2⟩

theorem cornerPair_valid (op : Rat → Rat → Rat) (xl xr yl yr : List Rat) :
    LE (cornerPair op xl xr yl yr).1 (cornerPair op xl xr yl yr).2 := zip4_le_zip4 min4_le_max4 _ _ _ _

theorem iso_perfectOp (op : Rat → Rat → Rat) (hop : Hull op) {X X' Y Y' : PB}
    (vX : LE X.left X.right) (vY : LE Y.left Y.right) (hX : PSub X X') (hY : PSub Y Y') :
    PairSub (perfectOp op X Y) (perfectOp op X' Y') := by
  have := cornerPair_iso op hop vX vY hX.1 hX.2 hY.1 hY.2
  exact ⟨sortR_forall₂ this.1, sortR_forall₂ this.2⟩

theorem iso_oppositeOp (op : Rat → Rat → Rat) (hop : Hull op) {X X' Y Y' : PB}
    (vX : LE X.left X.right) (vY : LE Y.left Y.right) (hX : PSub X X') (hY : PSub Y Y') :
    PairSub (oppositeOp op X Y) (oppositeOp op X' Y') := by
  have := cornerPair_iso op hop vX vY.reverse hX.1 hX.2 hY.1.reverse hY.2.reverse
  exact ⟨sortR_forall₂ this.1, sortR_forall₂ this.2⟩

def gridPair (op : Rat → Rat → Rat) (xl xr yl yr : List Rat) : List Rat × List Rat :=
  (zip4 min4 (cartesian op xl yl) (cartesian op xl yr) (cartesian op xr yl) (cartesian op xr yr),
   zip4 max4 (cartesian op xl yl) (cartesian op xl yr) (cartesian op xr yl) (cartesian op xr yr))

theorem zip4_map (f : Rat → Rat → Rat → Rat → Rat) (op : Rat → Rat → Rat) (a b : Rat) : ∀ (yl yr : List Rat),
    zip4 f (yl.map (op a)) (yr.map (op a)) (yl.map (op b)) (yr.map (op b)) = (yl.zip yr).map (corners f op (a, b))
  | [], _ => by simp [zip4]
  | _ :: _, [] => by simp [zip4]
  | c :: yl, d :: yr => by simp [zip4, corners, zip4_map f op a b yl yr]

theorem zip4_cartesian (f : Rat → Rat → Rat → Rat → Rat) (op : Rat → Rat → Rat) {yl yr : List Rat}
    (hy : yl.length = yr.length) : ∀ (xl xr : List Rat),
    zip4 f (cartesian op xl yl) (cartesian op xl yr) (cartesian op xr yl) (cartesian op xr yr) =
      (xl.zip xr).flatMap (fun p => (yl.zip yr).map (corners f op p))
  | [], _ => by simp [cartesian, zip4]
  | _ :: _, [] => by simp [cartesian, zip4_eq_zipWith]
  | a :: xl, b :: xr => by
    simp only [cartesian_cons, List.zip_cons_cons, List.flatMap_cons]
    rw [zip4_append _ _ _ _ _ _ _ _ _ (by simp [hy]) (by simp) (by simp [hy]), zip4_map, zip4_cartesian f op hy xl xr]

theorem gridPair_iso (op : Rat → Rat → Rat) (hop : Hull op)
    {xl xr yl yr xl' xr' yl' yr' : List Rat}
    (hx : LE xl xr) (hy : LE yl yr) (hxl : LE xl' xl) (hxr : LE xr xr') (hyl : LE yl' yl) (hyr : LE yr yr') :
    PairSub (gridPair op xl xr yl yr) (gridPair op xl' xr' yl' yr') := by
  have hlen : yl.length = yr.length := hy.length_eq
  have hlen' : yl'.length = yr'.length := by rw [hyl.length_eq, hlen, hyr.length_eq]
  have nx := nest_zip hx hxl hxr
  have ny := nest_zip hy hyl hyr
  have nx' : Forall₂ (fun p' p => Nest p p') (xl'.zip xr') (xl.zip xr) := nx.flip
  have ny' : Forall₂ (fun q' q => Nest q q') (yl'.zip yr') (yl.zip yr) := ny.flip
  simp only [gridPair, PairSub, zip4_cartesian _ _ hlen, zip4_cartesian _ _ hlen']
  exact ⟨rel_flatMap nx' fun _ _ hp => rel_map (R := fun q' q => Nest q q') (fun _ _ hq => (corner_iso hop hp hq).1) ny',
    rel_flatMap nx fun _ _ hp => rel_map (R := Nest) (fun _ _ hq => (corner_iso hop hp hq).2) ny⟩

theorem gridPair_valid (op : Rat → Rat → Rat) (xl xr yl yr : List Rat) :
    LE (gridPair op xl xr yl yr).1 (gridPair op xl xr yl yr).2 := zip4_le_zip4 min4_le_max4 _ _ _ _

theorem cornersSorted_eq (op : Rat → Rat → Rat) (x y : PB) :
    cornersSorted op x y = (sortR (gridPair op x.left x.right y.left y.right).1,
                            sortR (gridPair op x.left x.right y.left y.right).2) := rfl

theorem iso_independentOp (op : Rat → Rat → Rat) (hop : Hull op) {X X' Y Y' : PB}
    (vX : LE X.left X.right) (vY : LE Y.left Y.right) (hX : PSub X X') (hY : PSub Y Y') :
    PairSub (independentOp op X Y) (independentOp op X' Y') := by
  have := gridPair_iso op hop vX vY hX.1 hX.2 hY.1 hY.2
  exact ⟨sortR_forall₂ this.1, sortR_forall₂ this.2⟩

/-- **naive rule is isotone**: first `n` sorted minima, last `n` sorted maxima -/
theorem iso_naiveOp (op : Rat → Rat → Rat) (hop : Hull op) {X X' Y Y' : PB}
    (vX : LE X.left X.right) (vY : LE Y.left Y.right) (hX : PSub X X') (hY : PSub Y Y') :
    PairSub (naiveOp op X Y) (naiveOp op X' Y') := by
  obtain ⟨h1, h2⟩ := iso_independentOp op hop vX vY hX hY
  have hn : X'.left.length = X.left.length := hX.1.length_eq
  simp only [naiveOp, independentOp, PairSub] at *
  rw [hn]
  exact ⟨h1.take _, h2.drop _⟩

/-! ## the constructor on well-formed bounds -/

structure WF (n : Nat) (P : PB) : Prop where
  llen : P.left.length = n
  rlen : P.right.length = n
  lsorted : P.left.Pairwise (· ≤ ·)
  rsorted : P.right.Pairwise (· ≤ ·)
  valid : LE P.left P.right

theorem WF.of_mk {n : Nat} {l r : List Rat} (hl : l.length = n) (hr : r.length = n)
    (sl : l.Pairwise (· ≤ ·)) (sr : r.Pairwise (· ≤ ·)) (hle : LE l r) : WF n ⟨l, r⟩ :=
  ⟨hl, hr, sl, sr, hle⟩

theorem WF.num {n : Nat} {P : PB} (w : WF n P) : Num.WF n P := ⟨w.llen, w.rlen, w.lsorted, w.rsorted, w.valid⟩
theorem WF.of_num {n : Nat} {P : PB} (w : Num.WF n P) : WF n P := ⟨w.lenL, w.lenR, w.sortedL, w.sortedR, w.le⟩
theorem WF.c04 {n : Nat} {P : PB} (w : WF n P) : Pun.WF.WF n P := ⟨w.llen, w.rlen, w.lsorted, w.rsorted, w.valid⟩

theorem mk_ok_condense (n m : Nat) (lists : Bool) (l r : List Rat) (hl : l.length = m) (hr : r.length = m) (hm : n < m)
    (sl : l.Pairwise (· ≤ ·)) (sr : r.Pairwise (· ≤ ·)) (hle : LE l r) :
    mk n lists l r = .ok ⟨condense n l, condense n r⟩ ∧ WF n ⟨condense n l, condense n r⟩ :=
  ⟨PBox.mk_ok_condense n lists l r (by omega) sl sr hle,
    condense_length n l, condense_length n r, condense_sorted n l (by omega) sl, condense_sorted n r (by omega) sr,
    condense_forall₂ n hle⟩

/-! ### from a raw rule to the public method -/

theorem cornerPair_length (op : Rat → Rat → Rat) (xl xr yl yr : List Rat) (n : Nat)
    (h1 : xl.length = n) (h2 : xr.length = n) (h3 : yl.length = n) (h4 : yr.length = n) :
    (cornerPair op xl xr yl yr).1.length = n ∧ (cornerPair op xl xr yl yr).2.length = n := by
  simp [cornerPair, zip4_eq_zipWith, h1, h2, h3, h4]

theorem gridPair_length (op : Rat → Rat → Rat) (xl xr yl yr : List Rat) (n : Nat)
    (h1 : xl.length = n) (h2 : xr.length = n) (h3 : yl.length = n) (h4 : yr.length = n) :
    (gridPair op xl xr yl yr).1.length = n * n ∧ (gridPair op xl xr yl yr).2.length = n * n := by
  simp [gridPair, zip4_eq_zipWith, cartesian_length, h1, h2, h3, h4]

abbrev RuleFacts (m : Nat) (p : List Rat × List Rat) : Prop := WF m ⟨p.1, p.2⟩

/-- every rule ends with a sort of each bound -/
theorem RuleFacts.of_sortR {m : Nat} {l r : List Rat} (hl : l.length = m) (hr : r.length = m) (h : LE l r) :
    RuleFacts m (sortR l, sortR r) :=
  ⟨by rw [sortR_length, hl], by rw [sortR_length, hr], sortR_sorted l, sortR_sorted r, sortR_forall₂ h⟩

theorem RuleFacts.mk_ok {n : Nat} {p : List Rat × List Rat} (f : RuleFacts n p) (lists : Bool) :
    PBox.mk n lists p.1 p.2 = Except.ok ⟨p.1, p.2⟩ := mk_ok_of_le n lists _ _ f.llen f.rlen f.lsorted f.rsorted f.valid

theorem frechetOp_facts (op : Rat → Rat → Rat) (hop : Mono2 op) (n : Nat) {X Y : PB} (wX : WF n X) (wY : WF n Y) :
    RuleFacts n (frechetOp op X Y) :=
  RuleFacts.of_sortR (by rw [frechetLeftRaw_length, wX.llen]) (by rw [frechetRightRaw_length, wX.rlen])
    (Pun.WF.frechetRaw_le op hop n X Y wX.c04 wY.c04)

theorem perfectOp_facts (op : Rat → Rat → Rat) (n : Nat) {X Y : PB} (wX : WF n X) (wY : WF n Y) :
    RuleFacts n (perfectOp op X Y) := by
  obtain ⟨h1, h2⟩ := cornerPair_length op X.left X.right Y.left Y.right n wX.llen wX.rlen wY.llen wY.rlen
  exact RuleFacts.of_sortR h1 h2 (cornerPair_valid op _ _ _ _)

theorem oppositeOp_facts (op : Rat → Rat → Rat) (n : Nat) {X Y : PB} (wX : WF n X) (wY : WF n Y) :
    RuleFacts n (oppositeOp op X Y) := by
  obtain ⟨h1, h2⟩ := cornerPair_length op X.left X.right Y.left.reverse Y.right.reverse n wX.llen wX.rlen
    (by simp [wY.llen]) (by simp [wY.rlen])
  exact RuleFacts.of_sortR h1 h2 (cornerPair_valid op _ _ _ _)

theorem independentOp_facts (op : Rat → Rat → Rat) (n : Nat) {X Y : PB} (wX : WF n X) (wY : WF n Y) :
    RuleFacts (n * n) (independentOp op X Y) := by
  obtain ⟨h1, h2⟩ := gridPair_length op X.left X.right Y.left Y.right n wX.llen wX.rlen wY.llen wY.rlen
  exact RuleFacts.of_sortR h1 h2 (gridPair_valid op _ _ _ _)

theorem sq_cases (n : Nat) : n * n = n ∨ n < n * n := by
  match n with
  | 0 => exact Or.inl rfl
  | 1 => exact Or.inl rfl
  | k + 2 => exact Or.inr (Nat.lt_mul_self_iff.mpr (by omega))

/-- **the constructor is isotone**: nested raw results of a rule (of length `n`, or longer and then condensed) give
nested well-formed p-boxes; `r`, `r'` are the two public calls, which end in the constructor by definition -/
theorem mk_iso {n m : Nat} (hm : m = n ∨ n < m) (lists : Bool) {p p' : List Rat × List Rat} {r r' : Except Err PB}
    (f : RuleFacts m p) (f' : RuleFacts m p') (h : PairSub p p')
    (e : r = mk n lists p.1 p.2) (e' : r' = mk n lists p'.1 p'.2) :
    ∃ R R', r = .ok R ∧ r' = .ok R' ∧ PSub R R' ∧ WF n R ∧ WF n R' := by
  subst e e'
  rcases hm with rfl | hm
  · exact ⟨_, _, f.mk_ok lists, f'.mk_ok lists, h, f, f'⟩
  · obtain ⟨e, w⟩ := mk_ok_condense n m lists p.1 p.2 f.llen f.rlen hm f.lsorted f.rsorted f.valid
    obtain ⟨e', w'⟩ := mk_ok_condense n m lists p'.1 p'.2 f'.llen f'.rlen hm f'.lsorted f'.rsorted f'.valid
    exact ⟨_, _, e, e', ⟨condense_forall₂ n h.1, condense_forall₂ n h.2⟩, w, w'⟩

/-- **`X.add(Y, dependency)` is isotone** under every dependency, for all well-formed operands of any size:
both runs return, the results are well formed and nested -/
theorem add_iso (n : Nat) (d : Dep) (hd : d ≠ .unknown) {X X' Y Y' : PB}
    (wX : WF n X) (wX' : WF n X') (wY : WF n Y) (wY' : WF n Y') (hX : PSub X X') (hY : PSub Y Y') :
    ∃ R R', add n d X Y = .ok R ∧ add n d X' Y' = .ok R' ∧ PSub R R' ∧ WF n R ∧ WF n R' := by
  cases d with
  | f =>
    exact mk_iso (Or.inl rfl) false (frechetOp_facts _ add_mono2 n wX wY) (frechetOp_facts _ add_mono2 n wX' wY')
      (iso_frechetOp _ add_mono2 hX hY) rfl rfl
  | p =>
    exact mk_iso (Or.inl rfl) false (perfectOp_facts _ n wX wY) (perfectOp_facts _ n wX' wY')
      (iso_perfectOp _ hull_add wX.valid wY.valid hX hY) rfl rfl
  | o =>
    exact mk_iso (Or.inl rfl) false (oppositeOp_facts _ n wX wY) (oppositeOp_facts _ n wX' wY')
      (iso_oppositeOp _ hull_add wX.valid wY.valid hX hY) rfl rfl
  | i =>
    exact mk_iso (sq_cases n) false (independentOp_facts _ n wX wY) (independentOp_facts _ n wX' wY')
      (iso_independentOp _ hull_add wX.valid wY.valid hX hY) rfl rfl
  | unknown => exact absurd rfl hd

/-! ## stacking: the generalised inverse of the cumulated mass is monotone in the focal endpoints

`stackBound` sorts the rows `(value, weight)` by value and returns, for a level `p`, the value of the first row whose
cumulated weight reaches `p`.  The order of the rows with equal values is lost in the sort, so the value is
characterised through `massLE`, which does not depend on the order: it is the least value `v` with `p ≤ massLE v`. -/

def massLE : List (Rat × Rat) → Rat → Rat
  | [], _ => 0
  | (v, w) :: r, c => (if v ≤ c then w else 0) + massLE r c

def total : List (Rat × Rat) → Rat
  | [] => 0
  | (_, w) :: r => w + total r

def NonNegW (l : List (Rat × Rat)) : Prop := ∀ x ∈ l, 0 ≤ x.2

def SortedV (l : List (Rat × Rat)) : Prop := l.Pairwise (fun a b => a.1 ≤ b.1)

theorem NonNegW.tail {x : Rat × Rat} {r : List (Rat × Rat)} (h : NonNegW (x :: r)) : NonNegW r :=
  fun y hy => h y (List.mem_cons_of_mem _ hy)

theorem massLE_nonneg {l : List (Rat × Rat)} (h : NonNegW l) (c : Rat) : 0 ≤ massLE l c := by
  induction l with
  | nil => exact le_rfl
  | cons x r ih =>
    have hw : 0 ≤ x.2 := h x (by simp)
    have := ih h.tail
    simp only [massLE]
    split <;> linarith

theorem massLE_le_total {l : List (Rat × Rat)} (h : NonNegW l) (c : Rat) : massLE l c ≤ total l := by
  induction l with
  | nil => exact le_rfl
  | cons x r ih =>
    have hw : 0 ≤ x.2 := h x (by simp)
    have := ih h.tail
    simp only [massLE, total]
    split <;> linarith

theorem massLE_perm {l l' : List (Rat × Rat)} (h : l.Perm l') (c : Rat) : massLE l c = massLE l' c := by
  induction h with
  | nil => rfl
  | cons x _ ih => simp only [massLE, ih]
  | swap x y l => simp only [massLE]; ring
  | trans _ _ ih1 ih2 => rw [ih1, ih2]

theorem total_perm {l l' : List (Rat × Rat)} (h : l.Perm l') : total l = total l' := by
  induction h with
  | nil => rfl
  | cons x _ ih => simp only [total, ih]
  | swap x y l => simp only [total]; ring
  | trans _ _ ih1 ih2 => rw [ih1, ih2]

theorem massLE_zero_of_lt {l : List (Rat × Rat)} (c : Rat) (h : ∀ x ∈ l, c < x.1) : massLE l c = 0 := by
  induction l with
  | nil => rfl
  | cons x r ih =>
    simp only [massLE, if_neg (not_le.mpr (h x (by simp))), zero_add]
    exact ih (fun y hy => h y (List.mem_cons_of_mem _ hy))

theorem firstReach_spec {l : List (Rat × Rat)} (hs : SortedV l) (hw : NonNegW l) (acc p : Rat) (hacc : acc < p) :
    (∀ v, firstReach (cumul l acc) p = some v → p ≤ acc + massLE l v ∧ ∀ c, c < v → acc + massLE l c < p) ∧
    (firstReach (cumul l acc) p = none → acc + total l < p) := by
  induction l generalizing acc with
  | nil => simpa [cumul, firstReach, total] using hacc
  | cons x r ih =>
    obtain ⟨v₀, w₀⟩ := x
    rw [SortedV, List.pairwise_cons] at hs
    have hw₀ : 0 ≤ w₀ := hw (v₀, w₀) (by simp)
    have hz : ∀ c, c < v₀ → massLE ((v₀, w₀) :: r) c = 0 := fun c hc =>
      massLE_zero_of_lt c (by
        intro y hy
        rcases List.mem_cons.mp hy with rfl | hy
        · exact hc
        · exact lt_of_lt_of_le hc (hs.1 y hy))
    by_cases hp : p ≤ acc + w₀
    · simp only [cumul, firstReach, if_pos hp, Option.some.injEq, reduceCtorEq, false_imp_iff, and_true]
      rintro v rfl
      have := massLE_nonneg hw.tail v₀
      refine ⟨by simp only [massLE, le_refl, if_true]; linarith, fun c hc => ?_⟩
      rw [hz c hc]
      linarith
    · simp only [cumul, firstReach, if_neg hp]
      obtain ⟨ih1, ih2⟩ := ih hs.2 hw.tail (acc + w₀) (not_le.mp hp)
      refine ⟨fun v hv => ?_, fun hn => by simp only [total]; linarith [ih2 hn]⟩
      obtain ⟨h1, h2⟩ := ih1 v hv
      -- the value found in the tail is not below the head: otherwise no mass of the tail would lie below it
      have hv₀ : v₀ ≤ v := by
        by_contra hlt
        have h0 := hz v (not_le.mp hlt)
        simp only [massLE, if_neg hlt, zero_add] at h0
        rw [h0] at h1
        linarith
      refine ⟨by simp only [massLE, if_pos hv₀]; linarith, fun c hc => ?_⟩
      have := h2 c hc
      simp only [massLE]
      split <;> linarith

/-! ### the rows `(value, weight)` of two nested lists of values with the same weights -/

theorem sortPairs_perm (l : List (Rat × Rat)) : (sortPairs l).Perm l := List.mergeSort_perm l _

theorem sortPairs_sorted (l : List (Rat × Rat)) : SortedV (sortPairs l) := by
  have := List.pairwise_mergeSort (le := fun a b : Rat × Rat => decide (a.1 ≤ b.1))
    (fun a b c h1 h2 => by simp at h1 h2 ⊢; exact le_trans h1 h2)
    (fun a b => by simp; exact le_total a.1 b.1) l
  exact this.imp (fun h => by simpa using h)

theorem massLE_zip_mono {vals vals' wts : List Rat} (h : LE vals vals') (hw : ∀ w ∈ wts, 0 ≤ w) (c : Rat) :
    massLE (vals'.zip wts) c ≤ massLE (vals.zip wts) c := by
  induction h generalizing wts with
  | nil => exact le_rfl
  | @cons a b s t hab _ ih =>
    cases wts with
    | nil => exact le_rfl
    | cons w ws =>
      have hw0 : 0 ≤ w := hw w (by simp)
      have := ih (wts := ws) (fun x hx => hw x (List.mem_cons_of_mem _ hx))
      simp only [List.zip_cons_cons, massLE]
      by_cases hb : b ≤ c
      · simp only [le_trans hab hb, hb, if_true]; linarith
      · simp only [hb, if_false]
        split <;> linarith

theorem total_zip_eq {vals vals' wts : List Rat} (h : LE vals vals') : total (vals'.zip wts) = total (vals.zip wts) := by
  induction h generalizing wts with
  | nil => rfl
  | cons _ _ ih =>
    cases wts with
    | nil => rfl
    | cons w ws => simp only [List.zip_cons_cons, total, ih]

theorem nonNegW_zip {vals wts : List Rat} (hw : ∀ w ∈ wts, 0 ≤ w) : NonNegW (vals.zip wts) :=
  fun x hx => hw x.2 (List.of_mem_zip hx).2

theorem lastVal_cumul (l : List (Rat × Rat)) (acc : Rat) : lastVal (cumul l acc) = lastVal l := by
  induction l generalizing acc with
  | nil => rfl
  | cons x r ih =>
    cases r with
    | nil => rfl
    | cons y r' => exact ih (acc + x.2)

theorem lastVal_mono {l l' : List (Rat × Rat)} (h : Forall₂ (fun r r' => r.1 ≤ r'.1) l l') : lastVal l ≤ lastVal l' := by
  induction h with
  | nil => exact le_rfl
  | cons hab htl ih =>
    cases htl with
    | nil => exact hab
    | cons _ _ => exact ih

theorem sortPairs_values_mono {vals vals' wts : List Rat} (h : LE vals vals') :
    Forall₂ (fun r r' : Rat × Rat => r.1 ≤ r'.1) (sortPairs (vals.zip wts)) (sortPairs (vals'.zip wts)) := by
  have hz : Forall₂ (fun r r' : Rat × Rat => r.1 ≤ r'.1) (vals.zip wts) (vals'.zip wts) :=
    forall₂_zipWith h (forall₂_refl (Rₐ := Eq) wts) fun _ _ _ _ hv _ => hv
  have := forall₂_of_perm_sorted (forall₂_map_left_iff.2 (forall₂_map_right_iff.2 hz))
    ((sortPairs_perm _).map Prod.fst) ((sortPairs_perm _).map Prod.fst)
    (List.pairwise_map.2 (sortPairs_sorted _)) (List.pairwise_map.2 (sortPairs_sorted _))
  exact forall₂_map_right_iff.1 (forall₂_map_left_iff.1 this)

/-- one level of `stacking` -/
def levelValue (vals wts : List Rat) (p : Rat) : Rat :=
  let sc := cumul (sortPairs (vals.zip wts)) 0
  match firstReach sc p with | some v => v | none => lastVal sc

theorem stackBound_eq (g vals wts : List Rat) : stackBound g vals wts = g.map (levelValue vals wts) := rfl

/-- **the generalised inverse is monotone in the values** (`geninv_antitone` of DESIGN-round0.md) -/
theorem levelValue_mono {vals vals' wts : List Rat} (h : LE vals vals') (hw : ∀ w ∈ wts, 0 ≤ w) (p : Rat) (hp : 0 < p) :
    levelValue vals wts p ≤ levelValue vals' wts p := by
  have hpm := sortPairs_perm (vals.zip wts)
  have hpm' := sortPairs_perm (vals'.zip wts)
  have nn : NonNegW (sortPairs (vals.zip wts)) := fun x hx => nonNegW_zip hw x (hpm.mem_iff.mp hx)
  have nn' : NonNegW (sortPairs (vals'.zip wts)) := fun x hx => nonNegW_zip hw x (hpm'.mem_iff.mp hx)
  have htot : total (sortPairs (vals'.zip wts)) = total (sortPairs (vals.zip wts)) := by
    rw [total_perm hpm', total_perm hpm, total_zip_eq h]
  obtain ⟨S1, S2⟩ := firstReach_spec (sortPairs_sorted (vals.zip wts)) nn 0 p hp
  obtain ⟨S1', S2'⟩ := firstReach_spec (sortPairs_sorted (vals'.zip wts)) nn' 0 p hp
  simp only [zero_add] at S1 S2 S1' S2'
  unfold levelValue
  simp only
  cases h0 : firstReach (cumul (sortPairs (vals.zip wts)) 0) p with
  | some v =>
    cases h0' : firstReach (cumul (sortPairs (vals'.zip wts)) 0) p with
    | some v' =>
      -- both runs reach the level: the mass of the narrower values up to `v'` reaches it as well
      by_contra hlt
      have h1 := (S1 v h0).2 v' (not_le.mp hlt)
      have h2 := (S1' v' h0').1
      have := massLE_zip_mono h hw v'
      rw [massLE_perm hpm] at h1
      rw [massLE_perm hpm'] at h2
      linarith
    | none => linarith [massLE_le_total nn v, (S1 v h0).1, S2' h0']
  | none =>
    cases h0' : firstReach (cumul (sortPairs (vals'.zip wts)) 0) p with
    | some v' => linarith [massLE_le_total nn' v', (S1' v' h0').1, S2 h0]
    | none =>
      -- neither run reaches the level: both return their largest value
      simp only [lastVal_cumul]
      exact lastVal_mono (sortPairs_values_mono h)

theorem stackBound_mono {g vals vals' wts : List Rat} (h : LE vals vals') (hw : ∀ w ∈ wts, 0 ≤ w)
    (hg : ∀ p ∈ g, 0 < p) : LE (stackBound g vals wts) (stackBound g vals' wts) := by
  rw [stackBound_eq, stackBound_eq]
  exact LE_map_of_le g _ _ (fun p hp => levelValue_mono h hw p (hg p hp))

end Pun.Iso
