import Pun.Model.Param
import Mathlib.Algebra.Order.Field.Rat
import Mathlib.Data.List.Forall2
/-! helper lemmas for C09: membership in a box, coordinatewise monotonicity, corner
extremes, column min/max of the corner rows, `pboxInit`. -/
namespace Pun.Param
open Pun

def InBox : List (Rat × Rat) → List Rat → Prop
  | [], [] => True
  | (lo, hi) :: b, x :: xs => lo ≤ x ∧ x ≤ hi ∧ InBox b xs
  | _, _ => False

/-- `Q` is monotone — increasing or decreasing, the direction may differ per coordinate —
    in each coordinate separately, on the box -/
def CoordMono : List (Rat × Rat) → (List Rat → Rat) → Prop
  | [], _ => True
  | (lo, hi) :: b, Q =>
    ((∀ ys, InBox b ys → ∀ x y, lo ≤ x → x ≤ y → y ≤ hi → Q (x :: ys) ≤ Q (y :: ys)) ∨
     (∀ ys, InBox b ys → ∀ x y, lo ≤ x → x ≤ y → y ≤ hi → Q (y :: ys) ≤ Q (x :: ys))) ∧
    ∀ x, lo ≤ x → x ≤ hi → CoordMono b (fun ys => Q (x :: ys))

theorem inBox_nil_iff (ys : List Rat) : InBox [] ys ↔ ys = [] := by
  cases ys <;> simp [InBox]

theorem inBox_cons_iff (lo hi : Rat) (b : List (Rat × Rat)) (ys : List Rat) :
    InBox ((lo, hi) :: b) ys ↔ ∃ x xs, ys = x :: xs ∧ lo ≤ x ∧ x ≤ hi ∧ InBox b xs := by
  cases ys <;> simp [InBox]

/-! A statement about all members of a box, coordinate by coordinate: with these two and the equations
of `CoordMono` the hypothesis for a concrete family becomes a statement about numbers. -/

theorem forall_inBox_nil {P : List Rat → Prop} : (∀ ys, InBox [] ys → P ys) ↔ P [] := by
  simp only [inBox_nil_iff, forall_eq]

theorem forall_inBox_cons {lo hi : Rat} {b : List (Rat × Rat)} {P : List Rat → Prop} :
    (∀ ys, InBox ((lo, hi) :: b) ys → P ys) ↔ ∀ x, lo ≤ x → x ≤ hi → ∀ xs, InBox b xs → P (x :: xs) := by
  constructor
  · intro h x h1 h2 xs hxs
    exact h (x :: xs) ⟨h1, h2, hxs⟩
  · intro h ys hys
    obtain ⟨x, xs, rfl, h1, h2, hxs⟩ := (inBox_cons_iff lo hi b ys).mp hys
    exact h x h1 h2 xs hxs

/-! ### corners -/

theorem corners_ne_nil : ∀ b : List (Rat × Rat), corners b ≠ []
  | [] => List.cons_ne_nil _ _
  | (lo, hi) :: b => by simp [corners, corners_ne_nil b]

theorem mem_corners_cons {lo hi : Rat} {b : List (Rat × Rat)} {c : List Rat} :
    c ∈ corners ((lo, hi) :: b) ↔ (∃ c' ∈ corners b, lo :: c' = c) ∨ ∃ c' ∈ corners b, hi :: c' = c := by
  simp only [corners, List.mem_append, List.mem_map]

/-- Induction on the number of parameters: move the first coordinate to the end of its interval in the direction `Q`
falls (rises), then use the face. -/
theorem corner_extremes : ∀ (b : List (Rat × Rat)) (Q : List Rat → Rat) (θ : List Rat),
    InBox b θ → CoordMono b Q → (∃ c ∈ corners b, Q c ≤ Q θ) ∧ ∃ c ∈ corners b, Q θ ≤ Q c
  | [], Q, θ, hθ, _ => by
    rw [(inBox_nil_iff θ).mp hθ]
    exact ⟨⟨[], List.mem_singleton_self _, le_rfl⟩, ⟨[], List.mem_singleton_self _, le_rfl⟩⟩
  | (lo, hi) :: b, Q, θ, hθ, ⟨hdir, hrest⟩ => by
    obtain ⟨x, xs, rfl, h1, h2, hxs⟩ := (inBox_cons_iff lo hi b θ).mp hθ
    have hlh : lo ≤ hi := le_trans h1 h2
    obtain ⟨⟨cl, hcl, hl⟩, ⟨cl', hcl', hl'⟩⟩ :=
      corner_extremes b (fun ys => Q (lo :: ys)) xs hxs (hrest lo le_rfl hlh)
    obtain ⟨⟨ch, hch, hh⟩, ⟨ch', hch', hh'⟩⟩ :=
      corner_extremes b (fun ys => Q (hi :: ys)) xs hxs (hrest hi hlh le_rfl)
    rcases hdir with hinc | hdec
    · exact ⟨⟨lo :: cl, mem_corners_cons.mpr (.inl ⟨cl, hcl, rfl⟩), le_trans hl (hinc xs hxs lo x le_rfl h1 h2)⟩,
        ⟨hi :: ch', mem_corners_cons.mpr (.inr ⟨ch', hch', rfl⟩), le_trans (hinc xs hxs x hi h1 h2 le_rfl) hh'⟩⟩
    · exact ⟨⟨hi :: ch, mem_corners_cons.mpr (.inr ⟨ch, hch, rfl⟩), le_trans hh (hdec xs hxs x hi h1 h2 le_rfl)⟩,
        ⟨lo :: cl', mem_corners_cons.mpr (.inl ⟨cl', hcl', rfl⟩), le_trans (hdec xs hxs lo x le_rfl h1 h2) hl'⟩⟩

theorem corner_inBox : ∀ (b : List (Rat × Rat)), (∀ p ∈ b, p.1 ≤ p.2) → ∀ c ∈ corners b, InBox b c
  | [], _, c, hc => by
    rw [List.mem_singleton.mp hc]
    trivial
  | (lo, hi) :: b, hb, c, hc => by
    have hlh : lo ≤ hi := hb (lo, hi) List.mem_cons_self
    have ih := corner_inBox b (fun p hp => hb p (List.mem_cons_of_mem _ hp))
    rcases mem_corners_cons.mp hc with ⟨c', hc', rfl⟩ | ⟨c', hc', rfl⟩
    · exact ⟨le_rfl, hlh, ih c' hc'⟩
    · exact ⟨hlh, le_rfl, ih c' hc'⟩

theorem corners_point : ∀ (b : List (Rat × Rat)), (∀ p ∈ b, p.1 = p.2) → ∀ c ∈ corners b, c = b.map Prod.fst
  | [], _, c, hc => List.mem_singleton.mp hc
  | (lo, hi) :: b, hb, c, hc => by
    have hlh : lo = hi := hb (lo, hi) List.mem_cons_self
    have ih := corners_point b (fun p hp => hb p (List.mem_cons_of_mem _ hp))
    rcases mem_corners_cons.mp hc with ⟨c', hc', rfl⟩ | ⟨c', hc', rfl⟩
    · rw [ih c' hc', List.map_cons]
    · rw [ih c' hc', List.map_cons, hlh]

/-! ### running minimum / maximum -/

theorem foldl_min_least {α β : Type} [LinearOrder α] (f : β → α) : ∀ (cs : List β) (m : α),
    (cs.foldl (fun m c => min m (f c)) m = m ∨ ∃ c ∈ cs, cs.foldl (fun m c => min m (f c)) m = f c) ∧
    cs.foldl (fun m c => min m (f c)) m ≤ m ∧ ∀ c ∈ cs, cs.foldl (fun m c => min m (f c)) m ≤ f c
  | [], m => ⟨Or.inl rfl, le_rfl, fun _ h => absurd h List.not_mem_nil⟩
  | c :: cs, m => by
    obtain ⟨hmem, h1, h2⟩ := foldl_min_least f cs (min m (f c))
    refine ⟨?_, le_trans h1 (min_le_left _ _), fun c' hc' => ?_⟩
    · rcases hmem with h | ⟨c', hc', h⟩
      · rcases min_choice m (f c) with h' | h'
        · exact Or.inl (h.trans h')
        · exact Or.inr ⟨c, List.mem_cons_self, h.trans h'⟩
      · exact Or.inr ⟨c', List.mem_cons_of_mem _ hc', h⟩
    · rcases List.mem_cons.mp hc' with rfl | h
      · exact le_trans h1 (min_le_right _ _)
      · exact h2 c' h

/-- `np.min` over the corner values; in the dual order, `np.max` -/
theorem foldl_min_cons_least {α β : Type} [LinearOrder α] (f : β → α) (c0 : β) (cs : List β) :
    (∃ c ∈ c0 :: cs, cs.foldl (fun m c => min m (f c)) (f c0) = f c) ∧
    ∀ c ∈ c0 :: cs, cs.foldl (fun m c => min m (f c)) (f c0) ≤ f c := by
  obtain ⟨hmem, h0, h⟩ := foldl_min_least f cs (f c0)
  refine ⟨?_, fun c hc => ?_⟩
  · rcases hmem with h' | ⟨c, hc, h'⟩
    · exact ⟨c0, List.mem_cons_self, h'⟩
    · exact ⟨c, List.mem_cons_of_mem _ hc, h'⟩
  · rcases List.mem_cons.mp hc with rfl | hc
    · exact h0
    · exact h c hc

theorem minL_map_cons {β : Type} (f : β → Rat) (d : Rat) (c0 : β) (cs : List β) :
    minL d ((c0 :: cs).map f) = cs.foldl (fun m c => min m (f c)) (f c0) := by
  simp only [List.map_cons, minL, List.foldl_map]

theorem maxL_map_cons {β : Type} (f : β → Rat) (d : Rat) (c0 : β) (cs : List β) :
    maxL d ((c0 :: cs).map f) = cs.foldl (fun m c => max m (f c)) (f c0) := by
  simp only [List.map_cons, maxL, List.foldl_map]

/-! ### column min / max of the corner rows -/

/-- the row scipy returns at corner `c` when `Qs` lists the quantile functions of the grid levels -/
def rowOf (Qs : List (List Rat → Rat)) (c : List Rat) : List Rat := Qs.map (fun Q => Q c)

theorem foldl_zipWith_rows (op : Rat → Rat → Rat) (Qs : List (List Rat → Rat)) :
    ∀ (cs : List (List Rat)) (g : (List Rat → Rat) → Rat),
    (cs.map (rowOf Qs)).foldl (fun acc s => List.zipWith op acc s) (Qs.map g)
      = Qs.map (fun Q => cs.foldl (fun m c => op m (Q c)) (g Q))
  | [], g => rfl
  | c :: cs, g => by
    have h : List.zipWith op (Qs.map g) (rowOf Qs c) = Qs.map (fun Q => op (g Q) (Q c)) := by
      rw [rowOf, List.zipWith_map, List.zipWith_self]
    rw [List.map_cons, List.foldl_cons, h]
    exact foldl_zipWith_rows op Qs cs (fun Q => op (g Q) (Q c))

theorem colMin_rows (Qs : List (List Rat → Rat)) (c0 : List Rat) (cs : List (List Rat)) :
    colMin ((c0 :: cs).map (rowOf Qs)) = Qs.map (fun Q => cs.foldl (fun m c => min m (Q c)) (Q c0)) :=
  foldl_zipWith_rows min Qs cs (fun Q => Q c0)

theorem colMax_rows (Qs : List (List Rat → Rat)) (c0 : List Rat) (cs : List (List Rat)) :
    colMax ((c0 :: cs).map (rowOf Qs)) = Qs.map (fun Q => cs.foldl (fun m c => max m (Q c)) (Q c0)) :=
  foldl_zipWith_rows max Qs cs (fun Q => Q c0)

/-! ### `Forall₂ (· ≤ ·)` and the checks of `pboxInit` -/

theorem forall2_map_map {β : Type} (l : List β) (f g : β → Rat) (h : ∀ x ∈ l, f x ≤ g x) :
    List.Forall₂ (· ≤ ·) (l.map f) (l.map g) := by
  rw [List.forall₂_map_left_iff, List.forall₂_map_right_iff, List.forall₂_same]
  exact h

theorem forall2_le_trans : ∀ {a b c : List Rat}, List.Forall₂ (· ≤ ·) a b → List.Forall₂ (· ≤ ·) b c →
    List.Forall₂ (· ≤ ·) a c
  | _, _, _, .nil, .nil => .nil
  | _, _, _, .cons h1 t1, .cons h2 t2 => .cons (le_trans h1 h2) (forall2_le_trans t1 t2)

theorem forall2_getElem? {R : Rat → Rat → Prop} : ∀ {l r : List Rat}, List.Forall₂ R l r →
    ∀ {j : Nat} {x y : Rat}, l[j]? = some x → r[j]? = some y → R x y
  | _, _, .cons h _, 0, _, _, hx, hy => by
    rw [List.getElem?_cons_zero, Option.some.injEq] at hx hy
    rw [← hx, ← hy]
    exact h
  | _, _, .cons _ t, j + 1, _, _, hx, hy => forall2_getElem? t hx hy

theorem allGe_cons (a b : Rat) (l r : List Rat) : allGe (a :: l) (b :: r) = (decide (b ≤ a) && allGe l r) := rfl

theorem anyGt_cons (a b : Rat) (l r : List Rat) : anyGt (a :: l) (b :: r) = (decide (b < a) || anyGt l r) := rfl

theorem allGe_iff_forall2 : ∀ {l r : List Rat}, l.length = r.length →
    (allGe l r = true ↔ List.Forall₂ (· ≤ ·) r l)
  | [], [], _ => ⟨fun _ => .nil, fun _ => rfl⟩
  | [], _ :: _, h => by cases h
  | _ :: _, [], h => by cases h
  | a :: l, b :: r, h => by
    rw [allGe_cons, Bool.and_eq_true, decide_eq_true_eq, List.forall₂_cons, allGe_iff_forall2 (Nat.succ.inj h)]

theorem allGe_self (l : List Rat) : allGe l l = true :=
  (allGe_iff_forall2 rfl).mpr (List.forall₂_refl l)

theorem anyGt_false_iff_forall2 : ∀ {l r : List Rat}, l.length = r.length →
    (anyGt l r = false ↔ List.Forall₂ (· ≤ ·) l r)
  | [], [], _ => ⟨fun _ => .nil, fun _ => rfl⟩
  | [], _ :: _, h => by cases h
  | _ :: _, [], h => by cases h
  | a :: l, b :: r, h => by
    rw [anyGt_cons, Bool.or_eq_false_iff, decide_eq_false_iff_not, not_lt, List.forall₂_cons,
      anyGt_false_iff_forall2 (Nat.succ.inj h)]

theorem pboxCheck_ok {l r l' r' : List Rat} (h : pboxCheck l r = .ok (l', r')) :
    l' = l ∧ r' = r ∧
      l.length = r.length ∧ isIncreasing l = true ∧ isIncreasing r = true ∧ List.Forall₂ (· ≤ ·) l r := by
  unfold pboxCheck at h
  split_ifs at h with hlen hinc hx
  rw [Except.ok.injEq, Prod.mk.injEq] at h
  rw [Bool.not_eq_true', Bool.and_eq_false_iff, not_or, Bool.not_eq_false, Bool.not_eq_false] at hinc
  have hlen' : l.length = r.length := not_not.mp hlen
  exact ⟨h.1.symm, h.2.symm, hlen', hinc.1, hinc.2,
    (anyGt_false_iff_forall2 hlen').mp (Bool.eq_false_iff.mpr hx)⟩

theorem pboxInit_cases {L R l r : List Rat} (h : pboxInit L R = .ok (l, r)) :
    (l = L ∧ r = R) ∨ (l = R ∧ r = L ∧ allGe L R = true) := by
  unfold pboxInit at h
  split_ifs at h with hg
  · obtain ⟨h1, h2, _⟩ := pboxCheck_ok h
    exact Or.inr ⟨h1, h2, hg⟩
  · obtain ⟨h1, h2, _⟩ := pboxCheck_ok h
    exact Or.inl ⟨h1, h2⟩

theorem pboxInit_same {L l r : List Rat} (h : pboxInit L L = .ok (l, r)) : l = L ∧ r = L := by
  rcases pboxInit_cases h with ⟨h1, h2⟩ | ⟨h1, h2, _⟩ <;> exact ⟨h1, h2⟩

theorem pboxInit_wf {L R l r : List Rat} (h : pboxInit L R = .ok (l, r)) :
    l.length = r.length ∧ isIncreasing l = true ∧ isIncreasing r = true ∧ List.Forall₂ (· ≤ ·) l r := by
  unfold pboxInit at h
  split_ifs at h
  all_goals
    obtain ⟨rfl, rfl, hwf⟩ := pboxCheck_ok h
    exact hwf

theorem pboxInit_increasing {L R l r : List Rat} (h : pboxInit L R = .ok (l, r)) :
    isIncreasing L = true ∧ isIncreasing R = true := by
  obtain ⟨_, hl, hr, _⟩ := pboxInit_wf h
  rcases pboxInit_cases h with ⟨rfl, rfl⟩ | ⟨rfl, rfl, _⟩
  · exact ⟨hl, hr⟩
  · exact ⟨hr, hl⟩

theorem pboxInit_le {L R l r : List Rat} (h : pboxInit L R = .ok (l, r)) (hlen : L.length = R.length) :
    List.Forall₂ (· ≤ ·) l L ∧ List.Forall₂ (· ≤ ·) R r := by
  rcases pboxInit_cases h with ⟨rfl, rfl⟩ | ⟨rfl, rfl, hg⟩
  · exact ⟨List.forall₂_refl l, List.forall₂_refl r⟩
  · exact ⟨(allGe_iff_forall2 hlen).mp hg, (allGe_iff_forall2 hlen).mp hg⟩

theorem pboxInit_brackets {L R l r X : List Rat} (h : pboxInit L R = .ok (l, r))
    (hL : List.Forall₂ (· ≤ ·) L X) (hR : List.Forall₂ (· ≤ ·) X R) :
    List.Forall₂ (· ≤ ·) l X ∧ List.Forall₂ (· ≤ ·) X r := by
  obtain ⟨h1, h2⟩ := pboxInit_le h (hL.length_eq.trans hR.length_eq)
  exact ⟨forall2_le_trans h1 hL, forall2_le_trans hR h2⟩

/-- the arguments handed over in the other order: either they are exchanged, or they pass the crossing check and then
all three rows are squeezed together -/
theorem pboxInit_brackets_swapped {L R l r X : List Rat} (h : pboxInit L R = .ok (l, r))
    (hR : List.Forall₂ (· ≤ ·) R X) (hL : List.Forall₂ (· ≤ ·) X L) :
    List.Forall₂ (· ≤ ·) l X ∧ List.Forall₂ (· ≤ ·) X r := by
  obtain ⟨_, _, _, hlr⟩ := pboxInit_wf h
  rcases pboxInit_cases h with ⟨rfl, rfl⟩ | ⟨rfl, rfl, _⟩
  · exact ⟨forall2_le_trans hlr hR, forall2_le_trans hL hlr⟩
  · exact ⟨hR, hL⟩

/-! ### table lookups -/

theorem lookupAll_of (t : Table) (E : List Rat → Entry) : ∀ (cs : List (List Rat)),
    (∀ c ∈ cs, lookup t c = some (some (E c))) → lookupAll t cs = some (cs.map (fun c => some (E c)))
  | [], _ => rfl
  | c :: cs, h => by
    simp only [lookupAll, h c List.mem_cons_self,
      lookupAll_of t E cs (fun c' hc' => h c' (List.mem_cons_of_mem _ hc')), List.map_cons]

theorem allSome_map (E : List Rat → Entry) : ∀ (cs : List (List Rat)),
    allSome (cs.map (fun c => some (E c))) = some (cs.map E)
  | [] => rfl
  | c :: cs => by simp only [List.map_cons, allSome, allSome_map E cs, Option.map_some]

end Pun.Param
