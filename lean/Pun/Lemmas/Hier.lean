import Pun.Model.Hier
import Pun.Lemmas.PBoxNeg
import Pun.Lemmas.Hull
import Mathlib.Data.List.Forall2
import Mathlib.Tactic.Linarith
import Mathlib.Tactic.Ring
import Mathlib.Algebra.Order.Field.Basic
import Mathlib.Algebra.Order.Group.MinMax
/-!
# Well-formed bounds pass the constructor; constant p-boxes are closed under every primitive

The constructor returns well-formed bounds (`WF`) unchanged (`mk_wf`).

`ofIvl n a b = ⟨replicate n a, replicate n b⟩` (an embedded interval).  Each primitive of `Pun.PBox` maps
constant p-boxes to constant p-boxes; the lemmas `*_replicate`, `*_ofIvl` compute the constants: sums and
differences add the endpoints, products and quotients are the four-corner hull under every dependency
(for Frechet through the sign routing, and naive ∩ Balch when an operand straddles zero).
-/
namespace Pun.Hier
open Pun Pun.PBox

attribute [simp] ok_bind

@[simp] theorem error_bind {α β : Type} (e : Err) (f : α → Except Err β) :
    ((Except.error e : Except Err α) >>= f) = Except.error e := rfl

theorem sortR_congr {X Y : List Rat} (hp : X.Perm Y) : sortR X = sortR Y :=
  sortR_eq_of_perm X (sortR Y) (hp.trans (sortR_perm Y).symm) (sortR_sorted Y)

/-! ## the constructor on well-formed bounds -/

structure WF (n : Nat) (p : PB) : Prop where
  llen : p.left.length = n
  rlen : p.right.length = n
  lsorted : p.left.Pairwise (· ≤ ·)
  rsorted : p.right.Pairwise (· ≤ ·)
  le : List.Forall₂ (· ≤ ·) p.left p.right

theorem mk_wf (n : Nat) (lists : Bool) (l r : List Rat) (h : WF n ⟨l, r⟩) : mk n lists l r = .ok ⟨l, r⟩ :=
  mk_ok_of_le n lists l r h.llen h.rlen h.lsorted h.rsorted h.le

theorem wf_ofDist (q : List Rat) (hs : q.Pairwise (· ≤ ·)) : WF q.length (ofDist q) :=
  ⟨rfl, rfl, hs, hs, List.forall₂_refl q⟩

theorem wf_num {n : Nat} {p : PB} (h : WF n p) : Num.WF n p := ⟨h.llen, h.rlen, h.lsorted, h.rsorted, h.le⟩
theorem wf_of_num {n : Nat} {p : PB} (h : Num.WF n p) : WF n p := ⟨h.lenL, h.lenR, h.sortedL, h.sortedR, h.le⟩

theorem neg_wf (n : Nat) (Q : PB) (hQ : WF n Q) :
    neg n Q = .ok ⟨Q.right.reverse.map (- ·), Q.left.reverse.map (- ·)⟩ ∧
    WF n ⟨Q.right.reverse.map (- ·), Q.left.reverse.map (- ·)⟩ :=
  ⟨Num.neg_ok n Q (wf_num hQ), wf_of_num (Num.neg_wf n Q (wf_num hQ))⟩

/-! ## lists of one repeated value -/

theorem pairwise_replicate (n : Nat) (v : Rat) : (List.replicate n v).Pairwise (· ≤ ·) :=
  List.pairwise_replicate.mpr (Or.inr (le_refl v))

theorem sortR_replicate (n : Nat) (v : Rat) : sortR (List.replicate n v) = List.replicate n v :=
  sortR_of_sorted _ (pairwise_replicate n v)

theorem replicate_ne_nil (n : Nat) (v : Rat) (hn : 0 < n) : List.replicate n v ≠ [] := by
  simp [Nat.pos_iff_ne_zero.mp hn]

theorem maxL_replicate (d : Rat) (n : Nat) (v : Rat) (hn : 0 < n) : maxL d (List.replicate n v) = v :=
  List.eq_of_mem_replicate (maxL_spec d _ (replicate_ne_nil n v hn)).1

theorem minL_replicate (d : Rat) (n : Nat) (v : Rat) (hn : 0 < n) : minL d (List.replicate n v) = v :=
  List.eq_of_mem_replicate (minL_spec d _ (replicate_ne_nil n v hn)).1

theorem lexGe_replicate (n : Nat) (u v : Rat) (hn : 0 < n) :
    lexGe (List.replicate n u) (List.replicate n v) = decide (u ≥ v) := by
  induction n with
  | zero => omega
  | succ k ih =>
    simp only [List.replicate_succ, lexGe]
    rcases lt_trichotomy u v with h | h | h
    · simp [h, not_lt.mpr (le_of_lt h), not_le.mpr h]
    · subst h
      simp only [lt_irrefl, if_false, ge_iff_le, le_refl, decide_true]
      cases k with
      | zero => simp [lexGe]
      | succ m => simpa using ih (by omega)
    · simp [h, le_of_lt h]

theorem allGe_replicate (n : Nat) (u v : Rat) (hn : 0 < n) :
    allGe (List.replicate n u) (List.replicate n v) = decide (u ≥ v) := by
  unfold allGe
  rw [List.zip_replicate', List.all_replicate]
  simp [Nat.pos_iff_ne_zero.mp hn]

theorem condense_replicate (n m : Nat) (v : Rat) (hm : 0 < m) :
    condense n (List.replicate m v) = List.replicate n v := by
  unfold condense
  apply List.ext_getElem
  · simp
  · intro i h1 h2
    simp only [List.length_map, List.length_range] at h1
    have := condenseIdx_lt m n i hm h1
    simp [List.getD_eq_getElem?_getD, List.getElem?_replicate, this]

theorem boundSteps_replicate (n m : Nat) (v : Rat) (hm : 0 < m) (hnm : n ≤ m) :
    boundSteps n (List.replicate m v) = .ok (List.replicate n v) := by
  rcases Nat.lt_or_eq_of_le hnm with h | h
  · simp [boundSteps, h, condense_replicate n m v hm]
  · subst h; exact boundSteps_eq n _ (List.length_replicate ..)

theorem forall₂_replicate (n : Nat) (a b : Rat) (hab : a ≤ b) :
    List.Forall₂ (· ≤ ·) (List.replicate n a) (List.replicate n b) := by
  induction n with
  | zero => exact List.Forall₂.nil
  | succ k ih => exact List.Forall₂.cons hab ih

theorem no_cross_replicate (n : Nat) (u v : Rat) (h : u ≤ v) :
    ((List.replicate n u).zip (List.replicate n v)).any (fun p => decide (p.1 > p.2)) = false :=
  no_cross_of_le (forall₂_replicate n u v h)

theorem wf_ofIvl (n : Nat) (a b : Rat) (hab : a ≤ b) : WF n (ofIvl n a b) :=
  ⟨List.length_replicate .., List.length_replicate .., pairwise_replicate n a, pairwise_replicate n b,
    forall₂_replicate n a b hab⟩

/-- `min`, `max`: the `left ≥ right` switch of either form exchanges the two values -/
theorem mk_replicate (n m : Nat) (lists : Bool) (u v : Rat) (hn : 0 < n) (hnm : n ≤ m) :
    mk n lists (List.replicate m u) (List.replicate m v) = .ok (ofIvl n (min u v) (max u v)) := by
  have hm : 0 < m := by omega
  have hsw : mkSwitch lists (List.replicate m u) (List.replicate m v) = decide (u ≥ v) := by
    cases lists <;> simp [mkSwitch, lexGe_replicate m u v hm, allGe_replicate m u v hm]
  rw [mk_eq, hsw]
  by_cases h : u ≥ v
  · rw [min_eq_right h, max_eq_left h, decide_eq_true h, if_pos rfl]
    exact mkChecked_of_boundSteps n _ _ (boundSteps_replicate n m v hm hnm) (boundSteps_replicate n m u hm hnm)
      (pairwise_replicate n v) (pairwise_replicate n u) (forall₂_replicate n v u h)
  · have h' : u ≤ v := le_of_lt (not_le.mp h)
    rw [min_eq_left h', max_eq_right h', decide_eq_false h, if_neg Bool.false_ne_true]
    exact mkChecked_of_boundSteps n _ _ (boundSteps_replicate n m u hm hnm) (boundSteps_replicate n m v hm hnm)
      (pairwise_replicate n u) (pairwise_replicate n v) (forall₂_replicate n u v h')

theorem mk_ofIvl (n : Nat) (lists : Bool) (u v : Rat) (h : u ≤ v) :
    mk n lists (List.replicate n u) (List.replicate n v) = .ok (ofIvl n u v) :=
  mk_wf n lists _ _ (wf_ofIvl n u v h)

theorem mk_ofIvl_sq (n : Nat) (lists : Bool) (u v : Rat) (hn : 0 < n) (h : u ≤ v) :
    mk n lists (List.replicate (n * n) u) (List.replicate (n * n) v) = .ok (ofIvl n u v) := by
  rw [mk_replicate n (n * n) lists u v hn (Nat.le_mul_of_pos_left n hn), min_eq_left h, max_eq_right h]

theorem ivlToPbox_eq (n : Nat) (a b : Rat) (h : a ≤ b) :
    ivlToPbox n a b = .ok (ofIvl n a b) := mk_ofIvl n false a b h

/-! ## the combination rules on constant lists -/

theorem frechetLeftRaw_replicate (op : Rat → Rat → Rat) (n : Nat) (a c : Rat) :
    frechetLeftRaw op (List.replicate n a) (List.replicate n c) = List.replicate n (op a c) := by
  unfold frechetLeftRaw
  apply List.ext_getElem
  · simp
  · intro i h1 h2
    simp only [List.length_map, List.length_range, List.length_replicate] at h1
    simp only [List.getElem_map, List.getElem_range, List.take_replicate, List.reverse_replicate,
      List.zipWith_replicate, List.getElem_replicate]
    exact maxL_replicate 0 _ _ (by omega)

theorem frechetRightRaw_replicate (op : Rat → Rat → Rat) (n : Nat) (b d : Rat) :
    frechetRightRaw op (List.replicate n b) (List.replicate n d) = List.replicate n (op b d) := by
  unfold frechetRightRaw
  apply List.ext_getElem
  · simp
  · intro i h1 h2
    simp only [List.length_map, List.length_range, List.length_replicate] at h1
    simp only [List.getElem_map, List.getElem_range, List.drop_replicate, List.reverse_replicate,
      List.zipWith_replicate, List.getElem_replicate]
    exact minL_replicate 0 _ _ (by omega)

theorem frechetOp_ofIvl (op : Rat → Rat → Rat) (n : Nat) (a b c d : Rat) :
    frechetOp op (ofIvl n a b) (ofIvl n c d) = (List.replicate n (op a c), List.replicate n (op b d)) := by
  simp only [frechetOp, ofIvl, frechetLeftRaw_replicate, frechetRightRaw_replicate, sortR_replicate]

theorem zip4_replicate (f : Rat → Rat → Rat → Rat → Rat) (n : Nat) (p q r s : Rat) :
    zip4 f (List.replicate n p) (List.replicate n q) (List.replicate n r) (List.replicate n s) =
      List.replicate n (f p q r s) := by
  induction n with
  | zero => rfl
  | succ k ih => simp only [List.replicate_succ, zip4, ih]

theorem cornerPair_replicate (op : Rat → Rat → Rat) (n : Nat) (a b c d : Rat) :
    cornerPair op (List.replicate n a) (List.replicate n b) (List.replicate n c) (List.replicate n d) =
      (List.replicate n (min4 (op a c) (op a d) (op b c) (op b d)),
       List.replicate n (max4 (op a c) (op a d) (op b c) (op b d))) := by
  simp only [cornerPair, List.zipWith_replicate, Nat.min_self, zip4_replicate]

theorem perfectOp_ofIvl (op : Rat → Rat → Rat) (n : Nat) (a b c d : Rat) :
    perfectOp op (ofIvl n a b) (ofIvl n c d) =
      (List.replicate n (min4 (op a c) (op a d) (op b c) (op b d)),
       List.replicate n (max4 (op a c) (op a d) (op b c) (op b d))) := by
  simp only [perfectOp, ofIvl, cornerPair_replicate, sortR_replicate]

theorem oppositeOp_ofIvl (op : Rat → Rat → Rat) (n : Nat) (a b c d : Rat) :
    oppositeOp op (ofIvl n a b) (ofIvl n c d) =
      (List.replicate n (min4 (op a c) (op a d) (op b c) (op b d)),
       List.replicate n (max4 (op a c) (op a d) (op b c) (op b d))) := by
  simp only [oppositeOp, ofIvl, List.reverse_replicate, cornerPair_replicate, sortR_replicate]

theorem cartesian_replicate (op : Rat → Rat → Rat) (n m : Nat) (a c : Rat) :
    cartesian op (List.replicate n a) (List.replicate m c) = List.replicate (n * m) (op a c) := by
  unfold cartesian
  rw [List.flatMap_replicate, List.map_replicate]
  induction n with
  | zero => simp
  | succ k ih => rw [List.replicate_succ, List.flatten_cons, ih, Nat.succ_mul, Nat.add_comm,
      List.replicate_add]

theorem cornersSorted_ofIvl (op : Rat → Rat → Rat) (n : Nat) (a b c d : Rat) :
    cornersSorted op (ofIvl n a b) (ofIvl n c d) =
      (List.replicate (n * n) (min4 (op a c) (op a d) (op b c) (op b d)),
       List.replicate (n * n) (max4 (op a c) (op a d) (op b c) (op b d))) := by
  simp only [cornersSorted, ofIvl, cartesian_replicate, zip4_replicate, sortR_replicate]

theorem naiveOp_ofIvl (op : Rat → Rat → Rat) (n : Nat) (a b c d : Rat) :
    naiveOp op (ofIvl n a b) (ofIvl n c d) =
      (List.replicate n (min4 (op a c) (op a d) (op b c) (op b d)),
       List.replicate n (max4 (op a c) (op a d) (op b c) (op b d))) := by
  have h1 : (ofIvl n a b).left.length = n := List.length_replicate ..
  have h2 : min n (n * n) = n := by
    rcases Nat.eq_zero_or_pos n with h | h
    · subst h; rfl
    · exact Nat.min_eq_left (Nat.le_mul_of_pos_left n h)
  have h3 : n * n - (n * n - n) = n := by
    rcases Nat.eq_zero_or_pos n with h | h
    · subst h; rfl
    · have := Nat.le_mul_of_pos_left n h; omega
  simp only [naiveOp, cornersSorted_ofIvl, h1, List.take_replicate, List.drop_replicate, h2, h3]

/-! ## the four-corner hull -/

theorem le_min4 {L p q r s : Rat} (h1 : L ≤ p) (h2 : L ≤ q) (h3 : L ≤ r) (h4 : L ≤ s) : L ≤ min4 p q r s :=
  le_min (le_min (le_min h1 h2) h3) h4

theorem max4_le {U p q r s : Rat} (h1 : p ≤ U) (h2 : q ≤ U) (h3 : r ≤ U) (h4 : s ≤ U) : max4 p q r s ≤ U :=
  max_le (max_le (max_le h1 h2) h3) h4

theorem min4_self (x : Rat) : min4 x x x x = x := by simp [min4]
theorem max4_self (x : Rat) : max4 x x x x = x := by simp [max4]

theorem focal_add_exact (a b c d : Rat) (hab : a ≤ b) (hcd : c ≤ d) :
    min4 (a+c) (a+d) (b+c) (b+d) = a + c ∧ max4 (a+c) (a+d) (b+c) (b+d) = b + d := by
  have h1 : a + c ≤ a + d := add_le_add le_rfl hcd
  have h2 : a + c ≤ b + c := add_le_add hab le_rfl
  have h3 : a + d ≤ b + d := add_le_add hab le_rfl
  have h4 : b + c ≤ b + d := add_le_add le_rfl hcd
  rw [min4_eq_arith, max4_eq_arith]
  exact ⟨Arith.min4_eq (Or.inl rfl) le_rfl h1 h2 (h1.trans h3),
    Arith.max4_eq (Or.inr (Or.inr (Or.inr rfl))) (h1.trans h3) h3 h4 le_rfl⟩

theorem hull_within {a b c d L U : Rat} (hab : a ≤ b) (hcd : c ≤ d)
    (h : ∀ x y, a ≤ x → x ≤ b → c ≤ y → y ≤ d → L ≤ x*y ∧ x*y ≤ U) :
    L ≤ min4 (a*c) (a*d) (b*c) (b*d) ∧ max4 (a*c) (a*d) (b*c) (b*d) ≤ U :=
  have h1 := h a c le_rfl hab le_rfl hcd
  have h2 := h a d le_rfl hab hcd le_rfl
  have h3 := h b c hab le_rfl le_rfl hcd
  have h4 := h b d hab le_rfl hcd le_rfl
  ⟨le_min4 h1.1 h2.1 h3.1 h4.1, max4_le h1.2 h2.2 h3.2 h4.2⟩

theorem hull_nonneg (a b c d : Rat) (ha : 0 ≤ a) (hab : a ≤ b) (hc : 0 ≤ c) (hcd : c ≤ d) :
    min4 (a*c) (a*d) (b*c) (b*d) = a*c ∧ max4 (a*c) (a*d) (b*c) (b*d) = b*d := by
  have h1 : a*c ≤ a*d := mul_le_mul_of_nonneg_left hcd ha
  have h2 : a*c ≤ b*c := mul_le_mul_of_nonneg_right hab hc
  have h3 : a*d ≤ b*d := mul_le_mul_of_nonneg_right hab (hc.trans hcd)
  have h4 : b*c ≤ b*d := mul_le_mul_of_nonneg_left hcd (ha.trans hab)
  rw [min4_eq_arith, max4_eq_arith]
  exact ⟨Arith.min4_eq (Or.inl rfl) le_rfl h1 h2 (h1.trans h3),
    Arith.max4_eq (Or.inr (Or.inr (Or.inr rfl))) (h1.trans h3) h3 h4 le_rfl⟩

theorem hull_neg_left (a b c d : Rat) :
    min4 (a*c) (a*d) (b*c) (b*d) = -max4 (-b*c) (-b*d) (-a*c) (-a*d) ∧
    max4 (a*c) (a*d) (b*c) (b*d) = -min4 (-b*c) (-b*d) (-a*c) (-a*d) := by
  simp only [min4, max4, neg_mul, max_neg_neg, min_neg_neg, neg_neg]
  constructor <;> ac_rfl

theorem hull_neg_right (a b c d : Rat) :
    min4 (a*c) (a*d) (b*c) (b*d) = -max4 (a * -d) (a * -c) (b * -d) (b * -c) ∧
    max4 (a*c) (a*d) (b*c) (b*d) = -min4 (a * -d) (a * -c) (b * -d) (b * -c) := by
  simp only [min4, max4, mul_neg, max_neg_neg, min_neg_neg, neg_neg]
  constructor <;> ac_rfl

theorem min4_swap (a b c d : Rat) : min4 (c*a) (c*b) (d*a) (d*b) = min4 (a*c) (a*d) (b*c) (b*d) := by
  simp only [min4, mul_comm c, mul_comm d]
  ac_rfl

theorem max4_swap (a b c d : Rat) : max4 (c*a) (c*b) (d*a) (d*b) = max4 (a*c) (a*d) (b*c) (b*d) := by
  simp only [max4, mul_comm c, mul_comm d]
  ac_rfl

theorem min_mul_le (a b x c : Rat) (h1 : a ≤ x) (h2 : x ≤ b) :
    min (a*c) (b*c) ≤ x*c ∧ x*c ≤ max (a*c) (b*c) := by
  rcases le_total 0 c with hc | hc
  · exact ⟨(min_le_left _ _).trans (mul_le_mul_of_nonneg_right h1 hc),
      (mul_le_mul_of_nonneg_right h2 hc).trans (le_max_right _ _)⟩
  · exact ⟨(min_le_right _ _).trans (mul_le_mul_of_nonpos_right h2 hc),
      (mul_le_mul_of_nonpos_right h1 hc).trans (le_max_left _ _)⟩

theorem one_div_anti (c d : Rat) (hcd : c ≤ d) (h0 : 0 < c ∨ d < 0) : 1 / d ≤ 1 / c := by
  rcases h0 with h | h
  · exact one_div_le_one_div_of_le h hcd
  · rw [one_div, one_div]; exact (inv_le_inv_of_neg h (lt_of_le_of_lt hcd h)).mpr hcd

/-! ## public methods on constant p-boxes -/

theorem add_ofIvl (n : Nat) (dep : Dep) (hd : dep ≠ .unknown) (a b c d : Rat) (hn : 0 < n)
    (hab : a ≤ b) (hcd : c ≤ d) :
    add n dep (ofIvl n a b) (ofIvl n c d) = .ok (ofIvl n (a + c) (b + d)) := by
  obtain ⟨e1, e2⟩ := focal_add_exact a b c d hab hcd
  have hle : a + c ≤ b + d := add_le_add hab hcd
  cases dep with
  | f => simp only [add, frechetOp_ofIvl]; exact mk_ofIvl n false _ _ hle
  | p => simp only [add, perfectOp_ofIvl, e1, e2]; exact mk_ofIvl n false _ _ hle
  | o => simp only [add, oppositeOp_ofIvl, e1, e2]; exact mk_ofIvl n false _ _ hle
  | i => simp only [add, independentOp, cornersSorted_ofIvl, e1, e2]; exact mk_ofIvl_sq n false _ _ hn hle
  | unknown => exact absurd rfl hd

theorem neg_ofIvl (n : Nat) (a b : Rat) (hab : a ≤ b) :
    neg n (ofIvl n a b) = .ok (ofIvl n (-b) (-a)) := by
  unfold neg
  simp only [ofIvl, List.reverse_replicate, List.map_replicate, sortR_replicate]
  exact mk_ofIvl n true _ _ (neg_le_neg hab)

theorem sub_ofIvl (n : Nat) (dep : Dep) (hd : dep ≠ .unknown) (a b c d : Rat) (hn : 0 < n)
    (hab : a ≤ b) (hcd : c ≤ d) :
    sub n dep (ofIvl n a b) (ofIvl n c d) = .ok (ofIvl n (a - d) (b - c)) := by
  unfold sub
  rw [neg_ofIvl n c d hcd, ok_bind,
    add_ofIvl n (swapPO dep) (swapPO_ne_unknown dep hd) a b (-d) (-c) hn hab (neg_le_neg hcd)]
  simp only [sub_eq_add_neg]

theorem mul_ofIvl_poi (n : Nat) (dep : Dep) (hd : dep = .p ∨ dep = .o ∨ dep = .i) (a b c d : Rat)
    (hn : 0 < n) :
    mul n dep (ofIvl n a b) (ofIvl n c d) =
      .ok (ofIvl n (min4 (a*c) (a*d) (b*c) (b*d)) (max4 (a*c) (a*d) (b*c) (b*d))) := by
  rcases hd with h | h | h <;> subst h
  · simp only [mul, perfectOp_ofIvl]; exact mk_ofIvl n false _ _ (min4_le_max4 _ _ _ _)
  · simp only [mul, oppositeOp_ofIvl]; exact mk_ofIvl n false _ _ (min4_le_max4 _ _ _ _)
  · simp only [mul, independentOp, cornersSorted_ofIvl]; exact mk_ofIvl_sq n false _ _ hn (min4_le_max4 _ _ _ _)

theorem hasZero_replicate (n : Nat) (v : Rat) (hn : 0 < n) : hasZero (List.replicate n v) = decide (v = 0) := by
  unfold hasZero
  rw [List.any_replicate]
  simp only [Nat.pos_iff_ne_zero.mp hn, if_false]
  rw [Bool.eq_iff_iff]; simp

theorem hi_ofIvl (n : Nat) (a b : Rat) (hn : 0 < n) : hi (ofIvl n a b) = b := by
  obtain ⟨k, rfl⟩ : ∃ k, n = k + 1 := ⟨n - 1, by omega⟩
  simp [hi, ofIvl, List.replicate_succ', List.getLastD_eq_getLast?]

theorem lo_ofIvl (n : Nat) (a b : Rat) (hn : 0 < n) : lo (ofIvl n a b) = a := by
  obtain ⟨k, rfl⟩ : ∃ k, n = k + 1 := ⟨n - 1, by omega⟩
  simp [lo, ofIvl, List.replicate_succ]

theorem straddlesZero_ofIvl (n : Nat) (a b : Rat) (hn : 0 < n) :
    straddlesZero (ofIvl n a b) = (decide (a < 0) && decide (b > 0)) := by
  simp [straddlesZero, ofIvl, minL_replicate 0 n a hn, maxL_replicate 0 n b hn]

theorem straddlesZero_ofIvl_true (n : Nat) (a b : Rat) (hn : 0 < n) (h : a < 0 ∧ 0 < b) :
    straddlesZero (ofIvl n a b) = true := by
  simp [straddlesZero_ofIvl n a b hn, h.1, h.2]

theorem straddlesZero_ofIvl_false (n : Nat) (a b : Rat) (hn : 0 < n) (h : b ≤ 0 ∨ 0 ≤ a) :
    straddlesZero (ofIvl n a b) = false := by
  rcases h with h | h <;> simp [straddlesZero_ofIvl n a b hn, not_lt.mpr h]

theorem straddle_cases (a b : Rat) : (a < 0 ∧ 0 < b) ∨ (b ≤ 0 ∨ 0 ≤ a) := by
  rcases lt_or_ge a 0 with h | h
  · rcases lt_or_ge 0 b with h' | h'
    · exact Or.inl ⟨h, h'⟩
    · exact Or.inr (Or.inl h')
  · exact Or.inr (Or.inr h)

theorem recip_ofIvl (n : Nat) (c d : Rat) (hn : 0 < n) (hcd : c ≤ d) (h0 : 0 < c ∨ d < 0) :
    recip n (ofIvl n c d) = .ok (ofIvl n (1 / d) (1 / c)) := by
  have hc : c ≠ 0 := by rcases h0 with h | h <;> intro e <;> linarith
  have hd : d ≠ 0 := by rcases h0 with h | h <;> intro e <;> linarith
  have hs : straddlesZero (ofIvl n c d) = false :=
    straddlesZero_ofIvl_false n c d hn (h0.symm.imp le_of_lt le_of_lt)
  unfold recip
  rw [hs]
  simp only [ofIvl, hasZero_replicate n _ hn, hc, hd, decide_false, Bool.or_self, Bool.false_eq_true,
    if_false, List.reverse_replicate, List.map_replicate]
  exact mk_ofIvl n false _ _ (one_div_anti c d hcd h0)

theorem numberOp_ofIvl (n : Nat) (f : Rat → Rat → Rat) (a b c : Rat) (hn : 0 < n) :
    numberOp n f (ofIvl n a b) c = .ok (ofIvl n (min (f a c) (f b c)) (max (f a c) (f b c))) := by
  unfold numberOp
  simp only [ofIvl, List.map_replicate, sortR_replicate]
  exact mk_replicate n n true _ _ hn (le_refl n)

theorem numberOp_ofIvl_mono (n : Nat) (f : Rat → Rat → Rat) (a b c : Rat) (hn : 0 < n) (h : f a c ≤ f b c) :
    numberOp n f (ofIvl n a b) c = .ok (ofIvl n (f a c) (f b c)) := by
  rw [numberOp_ofIvl n f a b c hn, min_eq_left h, max_eq_right h]

/-- `1 / other` for an embedded interval: `1 * other.reciprocal()` -/
theorem recipOne_ofIvl (n : Nat) (c d : Rat) (hn : 0 < n) (hcd : c ≤ d) (h0 : 0 < c ∨ d < 0) :
    (recip n (ofIvl n c d) >>= fun r => numberOp n (· * ·) r 1) = .ok (ofIvl n (1 / d) (1 / c)) := by
  have hle : 1 / d * 1 ≤ 1 / c * 1 := by rw [mul_one, mul_one]; exact one_div_anti c d hcd h0
  rw [recip_ofIvl n c d hn hcd h0, ok_bind, numberOp_ofIvl_mono n _ _ _ _ hn hle, mul_one, mul_one]

theorem div_ofIvl_right (n : Nat) (dep : Dep) (X : PB) (c d : Rat) (hn : 0 < n) (hcd : c ≤ d) (h0 : 0 < c ∨ d < 0) :
    div n dep X (ofIvl n c d) = mul n (swapPO dep) X (ofIvl n (1 / d) (1 / c)) := by
  unfold div
  rw [recipOne_ofIvl n c d hn hcd h0]

theorem div_ofIvl_poi (n : Nat) (dep : Dep) (hd : dep = .p ∨ dep = .o ∨ dep = .i) (a b c d : Rat)
    (hn : 0 < n) (hcd : c ≤ d) (h0 : 0 < c ∨ d < 0) :
    div n dep (ofIvl n a b) (ofIvl n c d) =
      .ok (ofIvl n (min4 (a*(1/d)) (a*(1/c)) (b*(1/d)) (b*(1/c))) (max4 (a*(1/d)) (a*(1/c)) (b*(1/d)) (b*(1/c)))) := by
  rw [div_ofIvl_right n dep _ c d hn hcd h0]
  apply mul_ofIvl_poi n (swapPO dep) _ a b _ _ hn
  rcases hd with h | h | h <;> subst h <;> simp [swapPO]

/-! ## the Frechet product of constant p-boxes -/

theorem classicFrechet_ofIvl (n : Nat) (op : Rat → Rat → Rat) (a b c d : Rat) (hn : 0 < n) :
    classicFrechet n op (ofIvl n a b) (ofIvl n c d) =
      .ok (ofIvl n (min (op a c) (op b d)) (max (op a c) (op b d))) := by
  simp only [classicFrechet, frechetOp_ofIvl]
  exact mk_replicate n n false _ _ hn (le_refl n)

theorem classicAdd_ofIvl (n : Nat) (a b c d : Rat) (hn : 0 < n) (hab : a ≤ b) (hcd : c ≤ d) :
    classicFrechet n (· + ·) (ofIvl n a b) (ofIvl n c d) = .ok (ofIvl n (a + c) (b + d)) :=
  add_ofIvl n .f (by decide) a b c d hn hab hcd

theorem classicMul_ofIvl (n : Nat) (a b c d : Rat) (hn : 0 < n) (ha : 0 ≤ a) (hab : a ≤ b) (hc : 0 ≤ c)
    (hcd : c ≤ d) :
    classicFrechet n (· * ·) (ofIvl n a b) (ofIvl n c d) = .ok (ofIvl n (a * c) (b * d)) := by
  have h : a * c ≤ b * d := mul_le_mul hab hcd hc (ha.trans hab)
  rw [classicFrechet_ofIvl n _ _ _ _ _ hn, min_eq_left h, max_eq_right h]

theorem frechetMulNoStraddle_ofIvl (n : Nat) (a b c d : Rat) (hn : 0 < n) (hab : a ≤ b) (hcd : c ≤ d)
    (hx : b ≤ 0 ∨ 0 ≤ a) (hy : d ≤ 0 ∨ 0 ≤ c) :
    frechetMulNoStraddle n (ofIvl n a b) (ofIvl n c d) =
      .ok (ofIvl n (min4 (a*c) (a*d) (b*c) (b*d)) (max4 (a*c) (a*d) (b*c) (b*d))) := by
  have hib : hi (ofIvl n a b) ≤ 0 ↔ b ≤ 0 := by rw [hi_ofIvl n a b hn]
  have hid : hi (ofIvl n c d) ≤ 0 ↔ d ≤ 0 := by rw [hi_ofIvl n c d hn]
  have hba := neg_le_neg hab
  have hdc := neg_le_neg hcd
  by_cases hb : b ≤ 0 <;> by_cases hd : d ≤ 0
  · have hb' := neg_nonneg.mpr hb
    have hd' := neg_nonneg.mpr hd
    obtain ⟨e1, e2⟩ := hull_nonneg (-b) (-a) (-d) (-c) hb' hba hd' hdc
    rw [noStraddle_nn n _ _ (hib.mpr hb) (hid.mpr hd), neg_ofIvl n a b hab, ok_bind, neg_ofIvl n c d hcd, ok_bind,
      classicMul_ofIvl n _ _ _ _ hn hb' hba hd' hdc,
      (hull_neg_left a b c d).1, (hull_neg_left a b c d).2, (hull_neg_right (-b) (-a) c d).1,
      (hull_neg_right (-b) (-a) c d).2, neg_neg, neg_neg, e1, e2]
  · have hb' := neg_nonneg.mpr hb
    have hc : 0 ≤ c := hy.resolve_left hd
    obtain ⟨e1, e2⟩ := hull_nonneg (-b) (-a) c d hb' hba hc hcd
    rw [noStraddle_np n _ _ (hib.mpr hb) (mt hid.mp hd), neg_ofIvl n a b hab, ok_bind,
      classicMul_ofIvl n _ _ _ _ hn hb' hba hc hcd, ok_bind,
      neg_ofIvl n _ _ (mul_le_mul hba hcd hc (hb'.trans hba)),
      (hull_neg_left a b c d).1, (hull_neg_left a b c d).2, e1, e2]
  · have ha : 0 ≤ a := hx.resolve_left hb
    have hd' := neg_nonneg.mpr hd
    obtain ⟨e1, e2⟩ := hull_nonneg a b (-d) (-c) ha hab hd' hdc
    rw [noStraddle_pn n _ _ (mt hib.mp hb) (hid.mpr hd), neg_ofIvl n c d hcd, ok_bind,
      classicMul_ofIvl n _ _ _ _ hn ha hab hd' hdc, ok_bind,
      neg_ofIvl n _ _ (mul_le_mul hab hdc hd' (ha.trans hab)),
      (hull_neg_right a b c d).1, (hull_neg_right a b c d).2, e1, e2]
  · have ha : 0 ≤ a := hx.resolve_left hb
    have hc : 0 ≤ c := hy.resolve_left hd
    obtain ⟨e1, e2⟩ := hull_nonneg a b c d ha hab hc hcd
    rw [noStraddle_pp n _ _ (mt hib.mp hb) (mt hid.mp hd), classicMul_ofIvl n a b c d hn ha hab hc hcd, e1, e2]

theorem imp_ofIvl (n : Nat) (a b c d : Rat) (hn : 0 < n) (h : max a c ≤ min b d) :
    imp n (ofIvl n a b) (ofIvl n c d) = .ok (ofIvl n (max a c) (min b d)) := by
  unfold imp
  simp only [ofIvl, List.zipWith_replicate, Nat.min_self, List.zip_replicate', List.any_replicate,
    Nat.pos_iff_ne_zero.mp hn, if_false, gt_iff_lt, not_lt.mpr h, decide_false, Bool.false_eq_true]
  exact mk_ofIvl n true _ _ h

/-- Every step of Balch's decomposition `x*y = (x-x0)*(y-y0) + (x-x0)*y0 + (y-y0)*x0 + x0*y0` (without the `x0` terms
when `x` does not straddle) returns a constant p-box containing its term for all `x`, `y` of the box. -/
theorem balchprod_ofIvl (n : Nat) (a b c d : Rat) (hn : 0 < n) (hab : a ≤ b) (hcd : c ≤ d)
    (hy : c < 0 ∧ 0 < d) :
    ∃ L U, balchprod n (ofIvl n a b) (ofIvl n c d) = .ok (ofIvl n L U) ∧
      L ≤ min4 (a*c) (a*d) (b*c) (b*d) ∧ max4 (a*c) (a*d) (b*c) (b*d) ≤ U := by
  have eyy := numberOp_ofIvl_mono n (· - ·) c d c hn (sub_le_sub_right hcd c)
  have hyy : d - c ≤ 0 ∨ 0 ≤ c - c := Or.inr (sub_self c).ge
  unfold balchprod
  rw [straddlesZero_ofIvl_true n c d hn hy, lo_ofIvl n a b hn, lo_ofIvl n c d hn]
  rcases straddle_cases a b with hx | hx
  · have exx := numberOp_ofIvl_mono n (· - ·) a b a hn (sub_le_sub_right hab a)
    have hxx : b - a ≤ 0 ∨ 0 ≤ a - a := Or.inr (sub_self a).ge
    rw [straddlesZero_ofIvl_true n a b hn hx]
    simp only [Bool.and_self, if_true]
    rw [exx, ok_bind, eyy, ok_bind,
      frechetMulNoStraddle_ofIvl n _ _ _ _ hn (sub_le_sub_right hab a) (sub_le_sub_right hcd c) hxx hyy, ok_bind,
      numberOp_ofIvl n _ _ _ _ hn, ok_bind, numberOp_ofIvl n _ _ _ _ hn, ok_bind,
      classicAdd_ofIvl n _ _ _ _ hn min_le_max min_le_max, ok_bind,
      classicAdd_ofIvl n _ _ _ _ hn (min4_le_max4 _ _ _ _) (add_le_add min_le_max min_le_max), ok_bind,
      numberOp_ofIvl n _ _ _ _ hn]
    refine ⟨_, _, rfl, hull_within hab hcd ?_⟩
    intro x y hx1 hx2 hy1 hy2
    obtain ⟨k1, k2⟩ := mul_corner_hull (a - a) (b - a) (c - c) (d - c) (x - a) (y - c) (sub_le_sub_right hx1 a)
      (sub_le_sub_right hx2 a) (sub_le_sub_right hy1 c) (sub_le_sub_right hy2 c)
    obtain ⟨k3, k4⟩ := min_mul_le (a - a) (b - a) (x - a) c (sub_le_sub_right hx1 a) (sub_le_sub_right hx2 a)
    obtain ⟨k5, k6⟩ := min_mul_le (c - c) (d - c) (y - c) a (sub_le_sub_right hy1 c) (sub_le_sub_right hy2 c)
    have e : x * y = (x - a) * (y - c) + ((x - a) * c + (y - c) * a) + a * c := by ring
    rw [e]
    constructor
    · refine le_trans (min_le_left _ _) ?_
      exact add_le_add (add_le_add k1 (add_le_add k3 k5)) le_rfl
    · refine le_trans ?_ (le_max_right _ _)
      exact add_le_add (add_le_add k2 (add_le_add k4 k6)) le_rfl
  · rw [straddlesZero_ofIvl_false n a b hn hx]
    simp only [Bool.false_and, Bool.false_eq_true, if_false, if_true]
    rw [eyy, ok_bind, frechetMulNoStraddle_ofIvl n a b _ _ hn hab (sub_le_sub_right hcd c) hx hyy, ok_bind,
      numberOp_ofIvl n _ _ _ _ hn, ok_bind, classicAdd_ofIvl n _ _ _ _ hn (min4_le_max4 _ _ _ _) min_le_max]
    refine ⟨_, _, rfl, hull_within hab hcd ?_⟩
    intro x y hx1 hx2 hy1 hy2
    obtain ⟨k1, k2⟩ := mul_corner_hull a b (c - c) (d - c) x (y - c) hx1 hx2 (sub_le_sub_right hy1 c)
      (sub_le_sub_right hy2 c)
    obtain ⟨k3, k4⟩ := min_mul_le a b x c hx1 hx2
    have e : x * y = x * (y - c) + x * c := by ring
    rw [e]
    exact ⟨add_le_add k1 k3, add_le_add k2 k4⟩

/-- `straddle_frechet_pbox(x, y)` on embedded intervals: naive ∩ Balch = the corner hull -/
theorem straddleFrechet_ofIvl (n : Nat) (a b c d : Rat) (hn : 0 < n) (hab : a ≤ b) (hcd : c ≤ d)
    (hy : c < 0 ∧ 0 < d) :
    straddleFrechet n (ofIvl n a b) (ofIvl n c d) =
      .ok (ofIvl n (min4 (a*c) (a*d) (b*c) (b*d)) (max4 (a*c) (a*d) (b*c) (b*d))) := by
  obtain ⟨L, U, hB, hL, hU⟩ := balchprod_ofIvl n a b c d hn hab hcd hy
  unfold straddleFrechet
  simp only [naiveOp_ofIvl]
  rw [mk_ofIvl n false _ _ (min4_le_max4 _ _ _ _), ok_bind, hB, ok_bind]
  have h1 : max (min4 (a*c) (a*d) (b*c) (b*d)) L = min4 (a*c) (a*d) (b*c) (b*d) := max_eq_left hL
  have h2 : min (max4 (a*c) (a*d) (b*c) (b*d)) U = max4 (a*c) (a*d) (b*c) (b*d) := min_eq_left hU
  rw [imp_ofIvl n _ _ _ _ hn (by rw [h1, h2]; exact min4_le_max4 _ _ _ _), h1, h2]

theorem frechetMul_ofIvl (n : Nat) (a b c d : Rat) (hn : 0 < n) (hab : a ≤ b) (hcd : c ≤ d) :
    frechetMul n (ofIvl n a b) (ofIvl n c d) =
      .ok (ofIvl n (min4 (a*c) (a*d) (b*c) (b*d)) (max4 (a*c) (a*d) (b*c) (b*d))) := by
  unfold frechetMul
  rcases straddle_cases c d with hy | hy
  · rw [straddlesZero_ofIvl_true n c d hn hy]
    simp only [Bool.or_true, if_true]
    exact straddleFrechet_ofIvl n a b c d hn hab hcd hy
  · rw [straddlesZero_ofIvl_false n c d hn hy]
    rcases straddle_cases a b with hx | hx
    · rw [straddlesZero_ofIvl_true n a b hn hx]
      simp only [Bool.or_false, if_true, Bool.false_eq_true, if_false]
      rw [straddleFrechet_ofIvl n c d a b hn hcd hab hx, min4_swap, max4_swap]
    · rw [straddlesZero_ofIvl_false n a b hn hx]
      simp only [Bool.or_self, Bool.false_eq_true, if_false]
      exact frechetMulNoStraddle_ofIvl n a b c d hn hab hcd hx hy

theorem mul_ofIvl (n : Nat) (dep : Dep) (hd : dep ≠ .unknown) (a b c d : Rat) (hn : 0 < n)
    (hab : a ≤ b) (hcd : c ≤ d) :
    mul n dep (ofIvl n a b) (ofIvl n c d) =
      .ok (ofIvl n (min4 (a*c) (a*d) (b*c) (b*d)) (max4 (a*c) (a*d) (b*c) (b*d))) := by
  cases dep with
  | f => exact frechetMul_ofIvl n a b c d hn hab hcd
  | p => exact mul_ofIvl_poi n .p (Or.inl rfl) a b c d hn
  | o => exact mul_ofIvl_poi n .o (Or.inr (Or.inl rfl)) a b c d hn
  | i => exact mul_ofIvl_poi n .i (Or.inr (Or.inr rfl)) a b c d hn
  | unknown => exact absurd rfl hd

theorem div_ofIvl (n : Nat) (dep : Dep) (hd : dep ≠ .unknown) (a b c d : Rat) (hn : 0 < n)
    (hab : a ≤ b) (hcd : c ≤ d) (h0 : 0 < c ∨ d < 0) :
    div n dep (ofIvl n a b) (ofIvl n c d) =
      .ok (ofIvl n (min4 (a*(1/d)) (a*(1/c)) (b*(1/d)) (b*(1/c))) (max4 (a*(1/d)) (a*(1/c)) (b*(1/d)) (b*(1/c)))) := by
  rw [div_ofIvl_right n dep _ c d hn hcd h0]
  exact mul_ofIvl n (swapPO dep) (swapPO_ne_unknown dep hd) a b _ _ hn hab (one_div_anti c d hcd h0)

end Pun.Hier
