import Pun.Model.PBox
import Pun.Model.Arith
import Pun.Lemmas.Sort
import Pun.Lemmas.Hull
import Mathlib.Data.List.Pairwise
import Mathlib.Algebra.Order.Field.Basic
/-!
# The list functions of the p-box model

What the model's functions on lists of bounds do, apart from the constructor: `maxL` / `minL`, sorted
lists under `zipWith`, entry `i` of a sort by counting (hence `sortR_forall₂`: sorting keeps pointwise `≤`), the ends
`lo` / `hi`, the zero tests `hasZero` / `straddlesZero`, and the
four-corner combinators `min4`, `max4`, `zip4`, `cartesian`.
-/
namespace Pun.PBox
open Pun

theorem maxL_spec (d : Rat) (l : List Rat) (hne : l ≠ []) :
    maxL d l ∈ l ∧ ∀ z ∈ l, z ≤ maxL d l := by
  cases l with
  | nil => exact absurd rfl hne
  | cons x xs => exact List.max?_eq_some_iff.mp rfl

theorem minL_spec (d : Rat) (l : List Rat) (hne : l ≠ []) :
    minL d l ∈ l ∧ ∀ z ∈ l, minL d l ≤ z := by
  cases l with
  | nil => exact absurd rfl hne
  | cons x xs => exact List.min?_eq_some_iff.mp rfl

theorem sorted_getElem_le {a : List Rat} (sa : a.Pairwise (· ≤ ·)) {p q : Nat} (hpq : p ≤ q)
    (hq : q < a.length) : a[p] ≤ a[q] :=
  sa.rel_get_of_le (a := ⟨p, by omega⟩) (b := ⟨q, hq⟩) hpq

theorem forall₂_le_of_getElem {l r : List Rat} (hlen : l.length = r.length)
    (hle : ∀ i (h : i < l.length), l[i] ≤ r[i]'(by omega)) : List.Forall₂ (· ≤ ·) l r :=
  List.forall₂_iff_get.mpr ⟨hlen, fun i h₁ _ => hle i h₁⟩

theorem getElem_le_of_forall₂ {l r : List Rat} (h : List.Forall₂ (· ≤ ·) l r) (i : Nat) (hi : i < l.length)
    (hi' : i < r.length) : l[i] ≤ r[i] :=
  (List.forall₂_iff_get.mp h).2 i hi hi'

theorem forall₂_zipWith {α α' β β' γ γ' : Type} {R : α → α' → Prop} {S : β → β' → Prop} {T : γ → γ' → Prop}
    {f : α → β → γ} {g : α' → β' → γ'} {l : List α} {l' : List α'} {m : List β} {m' : List β'}
    (hl : List.Forall₂ R l l') (hm : List.Forall₂ S m m') (hfg : ∀ a a' b b', R a a' → S b b' → T (f a b) (g a' b')) :
    List.Forall₂ T (List.zipWith f l m) (List.zipWith g l' m') := by
  induction hl generalizing m m' with
  | nil => simp
  | cons hab _ ih =>
    cases hm with
    | nil => simp
    | cons hcd htl => exact .cons (hfg _ _ _ _ hab hcd) (ih htl)

theorem zipWith_sorted (f : Rat → Rat → Rat) (hf : ∀ p p' q q', p ≤ p' → q ≤ q' → f p q ≤ f p' q') (a b : List Rat)
    (sa : a.Pairwise (· ≤ ·)) (sb : b.Pairwise (· ≤ ·)) : (List.zipWith f a b).Pairwise (· ≤ ·) := by
  rw [List.pairwise_iff_getElem] at sa sb ⊢
  intro i j hi hj hij
  simp only [List.length_zipWith, lt_min_iff] at hi hj
  simp only [List.getElem_zipWith]
  exact hf _ _ _ _ (sa i j hi.1 hj.1 hij) (sb i j hi.2 hj.2 hij)

theorem sorted_getElem_iff_lt_countP (s : List Rat) (hs : s.Pairwise (· ≤ ·)) (P : Rat → Bool)
    (hP : ∀ a b, a ≤ b → P b = true → P a = true) (i : Nat) (hi : i < s.length) :
    P s[i] = true ↔ i < s.countP P := by
  induction s generalizing i with
  | nil => simp at hi
  | cons a t ih =>
    rw [List.pairwise_cons] at hs
    by_cases ha : P a = true
    · cases i with
      | zero => simp [ha]
      | succ j => simpa [ha] using ih hs.2 j (by simpa using hi)
    · have hz : (a :: t).countP P = 0 := by
        rw [List.countP_eq_zero]
        intro x hx hPx
        rcases List.mem_cons.mp hx with rfl | hx
        · exact ha hPx
        · exact ha (hP a x (hs.1 x hx) hPx)
      rw [hz]
      simp only [Nat.not_lt_zero, iff_false]
      intro h
      exact ha (hP a _ (sorted_getElem_le (List.pairwise_cons.mpr hs) (Nat.zero_le i) hi) h)

theorem countP_le_add_countP_gt (g : List Rat) (c : Rat) :
    g.countP (fun x => decide (x ≤ c)) + g.countP (fun x => decide (c < x)) = g.length := by
  rw [List.length_eq_countP_add_countP (fun x => decide (x ≤ c)) (l := g)]
  congr 2
  funext a
  simp

section sorted
variable (s g : List Rat) (hs : s.Pairwise (· ≤ ·)) (hp : s.Perm g) (i : Nat) (hi : i < s.length)
include hs hp

theorem sorted_getElem_le_iff (c : Rat) : s[i] ≤ c ↔ i < g.countP (fun x => decide (x ≤ c)) := by
  rw [← hp.countP_eq, ← sorted_getElem_iff_lt_countP s hs _ (fun a b hab hb => by
    simp only [decide_eq_true_eq] at hb ⊢; exact le_trans hab hb) i hi, decide_eq_true_eq]

theorem sorted_getElem_lt_iff (c : Rat) : s[i] < c ↔ i < g.countP (fun x => decide (x < c)) := by
  rw [← hp.countP_eq, ← sorted_getElem_iff_lt_countP s hs _ (fun a b hab hb => by
    simp only [decide_eq_true_eq] at hb ⊢; exact lt_of_le_of_lt hab hb) i hi, decide_eq_true_eq]

theorem countP_lt_sorted_getElem : g.countP (fun x => decide (x < s[i])) ≤ i :=
  not_lt.mp (fun h => lt_irrefl _ ((sorted_getElem_lt_iff s g hs hp i hi _).mpr h))

theorem countP_gt_sorted_getElem : g.countP (fun x => decide (s[i] < x)) ≤ g.length - 1 - i := by
  have h1 := (sorted_getElem_le_iff s g hs hp i hi _).mp (le_refl _)
  have h2 := countP_le_add_countP_gt g s[i]
  omega

theorem le_sorted_getElem_of_countP (c : Rat) (h : g.countP (fun x => decide (x < c)) ≤ i) : c ≤ s[i] :=
  not_lt.mp (fun hlt => absurd ((sorted_getElem_lt_iff s g hs hp i hi c).mp hlt) (not_lt.mpr h))

theorem sorted_getElem_le_of_countP (c : Rat) (h : g.countP (fun x => decide (c < x)) ≤ g.length - 1 - i) : s[i] ≤ c := by
  rw [sorted_getElem_le_iff s g hs hp i hi]
  have h2 := countP_le_add_countP_gt g c
  have h3 := hp.length_eq
  omega

end sorted

theorem countP_le_of_forall₂ (l l' : List Rat) (h : List.Forall₂ (· ≤ ·) l l') (c : Rat) :
    l'.countP (fun x => decide (x ≤ c)) ≤ l.countP (fun x => decide (x ≤ c)) := by
  induction h with
  | nil => simp
  | @cons a b s t hab _ ih =>
    simp only [List.countP_cons]
    by_cases hb : b ≤ c
    · have ha : a ≤ c := le_trans hab hb
      simp [ha, hb]; exact ih
    · simp only [hb, decide_false, Bool.false_eq_true, if_false, add_zero]
      exact le_trans ih (Nat.le_add_right _ _)

/-- entry `i` of `s'` has at least `i + 1` entries of `l'`, hence of `l`, below it -/
theorem forall₂_of_perm_sorted {l l' s s' : List Rat} (h : List.Forall₂ (· ≤ ·) l l') (hp : s.Perm l)
    (hp' : s'.Perm l') (hs : s.Pairwise (· ≤ ·)) (hs' : s'.Pairwise (· ≤ ·)) : List.Forall₂ (· ≤ ·) s s' := by
  rw [List.forall₂_iff_get]
  refine ⟨by rw [hp.length_eq, hp'.length_eq, h.length_eq], fun i hi hi' => ?_⟩
  simp only [List.get_eq_getElem]
  rw [sorted_getElem_le_iff s l hs hp i hi]
  exact lt_of_lt_of_le ((sorted_getElem_le_iff s' l' hs' hp' i hi' _).mp (le_refl _))
    (countP_le_of_forall₂ l l' h _)

theorem sortR_forall₂ {l l' : List Rat} (h : List.Forall₂ (· ≤ ·) l l') :
    List.Forall₂ (· ≤ ·) (sortR l) (sortR l') :=
  forall₂_of_perm_sorted h (sortR_perm l) (sortR_perm l') (sortR_sorted l) (sortR_sorted l')

theorem getLastD_mem (l : List Rat) (d : Rat) (h : l ≠ []) : l.getLastD d ∈ l := by
  rw [List.getLastD_eq_getLast?, List.getLast?_eq_some_getLast h]
  exact List.getLast_mem h

theorem le_getLastD {l : List Rat} (s : l.Pairwise (· ≤ ·)) {v : Rat} (hv : v ∈ l) : v ≤ l.getLastD 0 := by
  rw [List.getLastD_eq_getLast?, List.getLast?_eq_some_getLast (List.ne_nil_of_mem hv)]
  exact s.rel_getLast hv

theorem hi_mem {P : PB} (h : P.right ≠ []) : hi P ∈ P.right := getLastD_mem _ _ h

theorem lo_le (P : PB) (s : P.left.Pairwise (· ≤ ·)) : ∀ x ∈ P.left, lo P ≤ x := by
  intro x hx
  rw [lo, List.headD_eq_head?_getD, List.head?_eq_some_head (List.ne_nil_of_mem hx)]
  exact s.rel_head hx

theorem le_hi (P : PB) (s : P.right.Pairwise (· ≤ ·)) : ∀ y ∈ P.right, y ≤ hi P :=
  fun _ hy => le_getLastD s hy

theorem hasZero_false (l : List Rat) (h : ∀ x ∈ l, x ≠ 0) : hasZero l = false := by
  unfold hasZero
  rw [List.any_eq_false]
  intro x hx
  simpa using h x hx

theorem exists_of_straddlesZero (P : PB) (h : straddlesZero P = true) :
    (∃ x ∈ P.left, x < 0) ∧ (∃ y ∈ P.right, 0 < y) := by
  unfold straddlesZero at h
  simp only [Bool.and_eq_true, decide_eq_true_eq] at h
  obtain ⟨h1, h2⟩ := h
  have hl : P.left ≠ [] := by
    intro e; rw [e] at h1; exact lt_irrefl _ h1
  have hr : P.right ≠ [] := by
    intro e; rw [e] at h2; exact lt_irrefl _ h2
  exact ⟨⟨_, (minL_spec 0 _ hl).1, h1⟩, ⟨_, (maxL_spec 0 _ hr).1, h2⟩⟩

theorem straddlesZero_false_of_left_nonneg (P : PB) (h : ∀ x ∈ P.left, 0 ≤ x) :
    straddlesZero P = false := by
  rw [Bool.eq_false_iff]
  intro hs
  obtain ⟨⟨x, hx, hx0⟩, -⟩ := exists_of_straddlesZero P hs
  exact not_lt.mpr (h x hx) hx0

theorem straddlesZero_false_of_right_nonpos (P : PB) (h : ∀ y ∈ P.right, y ≤ 0) :
    straddlesZero P = false := by
  rw [Bool.eq_false_iff]
  intro hs
  obtain ⟨-, y, hy, hy0⟩ := exists_of_straddlesZero P hs
  exact not_lt.mpr (h y hy) hy0

theorem straddlesZero_false_pos (P : PB) (hl : ∀ x ∈ P.left, 0 < x) (_hr : ∀ x ∈ P.right, 0 < x) :
    straddlesZero P = false :=
  straddlesZero_false_of_left_nonneg P (fun x hx => (hl x hx).le)

theorem straddlesZero_false_neg (P : PB) (_hl : ∀ x ∈ P.left, x < 0) (hr : ∀ x ∈ P.right, x < 0) :
    straddlesZero P = false :=
  straddlesZero_false_of_right_nonpos P (fun y hy => (hr y hy).le)

/-- a p-box all of whose values lie in a set on which `1/x` is antitone (all positive, or all negative)
does not straddle zero, so `reciprocal` passes its guard -/
theorem straddlesZero_false_of_anti (P : PB) (p : Rat → Prop)
    (hpl : ∀ x ∈ P.left, p x) (hpr : ∀ x ∈ P.right, p x)
    (hg : ∀ x y : Rat, p x → p y → x ≤ y → 1 / y ≤ 1 / x) : straddlesZero P = false := by
  rw [Bool.eq_false_iff]
  intro hs
  obtain ⟨⟨x, hx, hx0⟩, y, hy, hy0⟩ := exists_of_straddlesZero P hs
  have h := hg x y (hpl x hx) (hpr y hy) (hx0.trans hy0).le
  exact not_lt.mpr h ((one_div_neg.mpr hx0).trans (one_div_pos.mpr hy0))

/-- the association of the four corners here and that of the interval model -/
theorem min4_eq_arith (a b c d : Rat) : min4 a b c d = Arith.min4 a b c d := by
  unfold min4 Arith.min4; rw [min_assoc (min a b) c d]

theorem max4_eq_arith (a b c d : Rat) : max4 a b c d = Arith.max4 a b c d := by
  unfold max4 Arith.max4; rw [max_assoc (max a b) c d]

theorem mul_corner_hull (a b c d x y : Rat) (hx1 : a ≤ x) (hx2 : x ≤ b) (hy1 : c ≤ y) (hy2 : y ≤ d) :
    min4 (a*c) (a*d) (b*c) (b*d) ≤ x*y ∧ x*y ≤ max4 (a*c) (a*d) (b*c) (b*d) := by
  rw [min4_eq_arith, max4_eq_arith]
  exact Arith.mul_hull a b c d x y hx1 hx2 hy1 hy2

theorem min4_le_max4 (a b c d : Rat) : min4 a b c d ≤ max4 a b c d :=
  le_trans (min_le_left _ _) (le_trans (min_le_left _ _) (le_trans (min_le_left _ _)
    (le_trans (le_max_left _ _) (le_trans (le_max_left _ _) (le_max_left _ _)))))

theorem zip4_eq_zipWith (f : Rat → Rat → Rat → Rat → Rat) : ∀ (a b c d : List Rat),
    zip4 f a b c d = List.zipWith (fun (p q : Rat × Rat) => f p.1 p.2 q.1 q.2) (a.zip b) (c.zip d)
  | [], _, _, _ => by simp [zip4]
  | _ :: _, [], _, _ => by simp [zip4]
  | _ :: _, _ :: _, [], _ => by simp [zip4]
  | _ :: _, _ :: _, _ :: _, [] => by simp [zip4]
  | p :: a, q :: b, r :: c, s :: d => by
    simp only [zip4, List.zip_cons_cons, List.zipWith_cons_cons, zip4_eq_zipWith f a b c d]

theorem zip4_length (f : Rat → Rat → Rat → Rat → Rat) (a b c d : List Rat) (n : Nat)
    (ha : a.length = n) (hb : b.length = n) (hc : c.length = n) (hd : d.length = n) :
    (zip4 f a b c d).length = n := by
  simp [zip4_eq_zipWith, ha, hb, hc, hd]

theorem zip4_append (f : Rat → Rat → Rat → Rat → Rat) (a1 a2 a3 a4 b1 b2 b3 b4 : List Rat)
    (h2 : a1.length = a2.length) (h3 : a1.length = a3.length) (h4 : a1.length = a4.length) :
    zip4 f (a1 ++ b1) (a2 ++ b2) (a3 ++ b3) (a4 ++ b4) = zip4 f a1 a2 a3 a4 ++ zip4 f b1 b2 b3 b4 := by
  simp only [zip4_eq_zipWith]
  rw [List.zip_append h2, List.zip_append (h3.symm.trans h4), List.zipWith_append (by simp [← h2, ← h3, ← h4])]

theorem zip4_min_le_max (a b c d : List Rat) :
    List.Forall₂ (· ≤ ·) (zip4 min4 a b c d) (zip4 max4 a b c d) := by
  rw [zip4_eq_zipWith, zip4_eq_zipWith, List.forall₂_iff_get]
  refine ⟨by simp, fun i h1 h2 => ?_⟩
  simp only [List.get_eq_getElem, List.getElem_zipWith]
  exact min4_le_max4 _ _ _ _

theorem cartesian_cons (op : Rat → Rat → Rat) (a : Rat) (t b : List Rat) :
    cartesian op (a :: t) b = b.map (op a) ++ cartesian op t b := by
  simp [cartesian]

theorem cartesian_length (op : Rat → Rat → Rat) (a b : List Rat) :
    (cartesian op a b).length = a.length * b.length := by
  induction a with
  | nil => simp [cartesian]
  | cons x t ih => rw [cartesian_cons, List.length_append, ih]; simp [Nat.succ_mul, Nat.add_comm]

end Pun.PBox
