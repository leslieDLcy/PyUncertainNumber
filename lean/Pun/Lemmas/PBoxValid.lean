import Pun.Lemmas.PBoxFrechet
import Pun.Lemmas.PBoxMk
import Mathlib.Data.List.Perm.Basic
import Mathlib.Data.Fintype.Fin
import Mathlib.Data.List.OfFn
import Mathlib.Data.Fin.Tuple.Sort
/-!
# Outcome families of p-box arithmetic: validity, rank, order statistics

A p-box with `n` steps stands for the `n` intervals `[left[i], right[i]]`; an outcome family is one value of
`op x y` per index, for a selection `x`, `y` of one value per step (`Sel`) and a coupling `σ` of the steps.

* `Valid n R z`: at most `i` outcomes lie below `R.left[i]` and at most `n-1-i` above `R.right[i]`, i.e. the
  `i`-th smallest outcome lies in step `i` of `R` (`Valid.le_rank_le`); `IsRank n z i v`: `v` is the `i`-th smallest
  value of `z`.  Both depend only on the multiset of outcomes (`reindex`) and are mirrored by negation (`neg`).
* Entry `i` of the sort of a list is characterised by counting in the list (`sorted_getElem_le_iff`, … in
  `PBoxList`): this is how statements about sorted bounds become statements about `Valid` and `IsRank`.
* `flipB φ p`: the image of a p-box under an order-reversing map (negation `negB`, reciprocal `recipB`): bounds
  exchanged, steps listed in reverse.
* `AllValid` (`R` is valid for every selection and coupling), `Attained` (a value is the order statistic of its rank
  for some selection and coupling), `Good` (both, for every entry of `R`), their transport along `flipB`, the exchange
  of the operands and negation of the result, and `AllValid.comp`: validity composes.
-/
namespace Pun.PBox
open Pun Finset

structure WFS (n : Nat) (p : PB) : Prop where
  llen : p.left.length = n
  rlen : p.right.length = n
  lsorted : p.left.Pairwise (· ≤ ·)
  rsorted : p.right.Pairwise (· ≤ ·)

def Sel (n : Nat) (p : PB) (h : WFS n p) (z : Fin n → Rat) : Prop :=
  ∀ m : Fin n, p.left[m.val]'(by have := h.llen; omega) ≤ z m ∧ z m ≤ p.right[m.val]'(by have := h.rlen; omega)

structure WF (n : Nat) (p : PB) : Prop extends WFS n p where
  le : ∀ i (h : i < n), p.left[i]'(by omega) ≤ p.right[i]'(by omega)

def NonPos (p : PB) : Prop := (∀ v ∈ p.left, v ≤ 0) ∧ (∀ v ∈ p.right, v ≤ 0)

def OneSign (p : PB) : Prop := NonNeg p ∨ NonPos p

/-! ## outcome families: validity and rank -/

def Valid (n : Nat) (R : PB) (z : Fin n → Rat) : Prop :=
  ∀ (i : Fin n) (l r : Rat), R.left[i.val]? = some l → R.right[i.val]? = some r →
    (univ.filter (fun m : Fin n => z m < l)).card ≤ i.val ∧
    (univ.filter (fun m : Fin n => r < z m)).card ≤ n - 1 - i.val

def IsRank (n : Nat) (z : Fin n → Rat) (i : Fin n) (v : Rat) : Prop :=
  (univ.filter (fun m : Fin n => z m < v)).card ≤ i.val ∧
  i.val + 1 ≤ (univ.filter (fun m : Fin n => z m ≤ v)).card

theorem valid_iff {n : Nat} {R : PB} {z : Fin n → Rat} (hl : R.left.length = n) (hr : R.right.length = n) :
    Valid n R z ↔ ∀ i : Fin n,
      (univ.filter (fun m : Fin n => z m < R.left[i.val]'(by omega))).card ≤ i.val ∧
      (univ.filter (fun m : Fin n => R.right[i.val]'(by omega) < z m)).card ≤ n - 1 - i.val := by
  constructor
  · intro h i
    exact h i _ _ (List.getElem?_eq_getElem _) (List.getElem?_eq_getElem _)
  · intro h i l r hl' hr'
    obtain ⟨_, rfl⟩ := List.getElem?_eq_some_iff.mp hl'
    obtain ⟨_, rfl⟩ := List.getElem?_eq_some_iff.mp hr'
    exact h i

theorem isRank_iff_right {n : Nat} (z : Fin n → Rat) (i : Fin n) (v : Rat) :
    IsRank n z i v ↔
      (univ.filter (fun m : Fin n => v < z m)).card ≤ n - 1 - i.val ∧
      n - i.val ≤ (univ.filter (fun m : Fin n => v ≤ z m)).card := by
  have h1 := Finset.card_filter_add_card_filter_not (s := (univ : Finset (Fin n))) (fun m : Fin n => z m < v)
  have h2 := Finset.card_filter_add_card_filter_not (s := (univ : Finset (Fin n))) (fun m : Fin n => z m ≤ v)
  simp only [not_lt, not_le, card_univ, Fintype.card_fin] at h1 h2
  have hi := i.isLt
  unfold IsRank
  constructor
  · rintro ⟨a, b⟩; constructor <;> omega
  · rintro ⟨a, b⟩; constructor <;> omega

theorem IsRank.congr {n : Nat} {z z' : Fin n → Rat} {i : Fin n} {v : Rat} (h : ∀ m, z m = z' m)
    (hr : IsRank n z i v) : IsRank n z' i v := by
  rwa [← funext h]

theorem IsRank.reindex {n : Nat} {z : Fin n → Rat} {i : Fin n} {v : Rat} (h : IsRank n z i v)
    (e : Equiv.Perm (Fin n)) : IsRank n (fun m => z (e m)) i v := by
  unfold IsRank at h ⊢
  rw [Frechet.card_filter_comp_perm e (fun m => z m < v), Frechet.card_filter_comp_perm e (fun m => z m ≤ v)]
  exact h

theorem Valid.reindex {n : Nat} {R : PB} {z : Fin n → Rat} (h : Valid n R z)
    (e : Equiv.Perm (Fin n)) : Valid n R (fun m => z (e m)) := by
  intro i l r hl hr
  rw [Frechet.card_filter_comp_perm e (fun m => z m < l), Frechet.card_filter_comp_perm e (fun m => r < z m)]
  exact h i l r hl hr

theorem IsRank.neg {n : Nat} {z : Fin n → Rat} {i : Fin n} {v : Rat} (h : IsRank n z i v) :
    IsRank n (fun m => - z m) (Fin.rev i) (-v) := by
  rw [isRank_iff_right] at h
  unfold IsRank
  simp only [neg_lt_neg_iff, neg_le_neg_iff, Fin.val_rev]
  have hi := i.isLt
  constructor
  · have := h.1; omega
  · have := h.2; omega

theorem Valid.le_rank_le {n : Nat} {R : PB} {z : Fin n → Rat} (hv : Valid n R z) {k : Fin n} {v l r : Rat}
    (hk : IsRank n z k v) (hl : R.left[k.val]? = some l) (hr : R.right[k.val]? = some r) : l ≤ v ∧ v ≤ r := by
  obtain ⟨v1, v2⟩ := hv k l r hl hr
  constructor
  · by_contra hlt
    have hsub : (univ.filter (fun m : Fin n => z m ≤ v)) ⊆ (univ.filter (fun m : Fin n => z m < l)) :=
      monotone_filter_right _ (fun m _ hm => lt_of_le_of_lt hm (not_le.mp hlt))
    have := Finset.card_le_card hsub
    have := hk.2
    omega
  · by_contra hlt
    have hsub : (univ.filter (fun m : Fin n => v ≤ z m)) ⊆ (univ.filter (fun m : Fin n => r < z m)) :=
      monotone_filter_right _ (fun m _ hm => lt_of_lt_of_le (not_le.mp hlt) hm)
    have := Finset.card_le_card hsub
    have := ((isRank_iff_right z k v).mp hk).2
    have := k.isLt
    omega

/-! ## order statistics of outcome families -/

theorem countP_ofFn {n : Nat} (z : Fin n → Rat) (P : Rat → Prop) [DecidablePred P] :
    (List.ofFn z).countP (fun v => decide (P v)) = (univ.filter (fun m : Fin n => P (z m))).card := by
  induction n with
  | zero => simp
  | succ k ih =>
    rw [List.ofFn_succ, List.countP_cons, Fin.card_filter_univ_succ', ih (fun i => z i.succ)]
    by_cases h : P (z 0) <;> simp [h, add_comm]

theorem isRank_sorted {n : Nat} (z : Fin n → Rat) (s : List Rat) (hs : s.Pairwise (· ≤ ·))
    (hp : s.Perm (List.ofFn z)) (k : Fin n) (hk : k.val < s.length) : IsRank n z k s[k.val] := by
  have h1 := countP_lt_sorted_getElem s _ hs hp k.val hk
  have h2 := (sorted_getElem_le_iff s _ hs hp k.val hk _).mp (le_refl _)
  rw [countP_ofFn z (fun v => v < s[k.val])] at h1
  rw [countP_ofFn z (fun v => v ≤ s[k.val])] at h2
  exact ⟨h1, h2⟩

/-! ## selections and validity -/

theorem card_filter_le_of_lt {n : Nat} (Q : Fin n → Prop) [DecidablePred Q] (i : Fin n)
    (h : ∀ m, Q m → m < i) : (univ.filter Q).card ≤ i.val := by
  rw [← Fin.card_Iio i]
  exact card_le_card (fun m hm => Finset.mem_Iio.mpr (h m (Finset.mem_filter.mp hm).2))

theorem card_filter_le_of_gt {n : Nat} (Q : Fin n → Prop) [DecidablePred Q] (i : Fin n)
    (h : ∀ m, Q m → i < m) : (univ.filter Q).card ≤ n - 1 - i.val := by
  rw [← Fin.card_Ioi i]
  exact card_le_card (fun m hm => Finset.mem_Ioi.mpr (h m (Finset.mem_filter.mp hm).2))

theorem lt_card_filter_of_le {n : Nat} (Q : Fin n → Prop) [DecidablePred Q] (m : Fin n)
    (h : ∀ j, j ≤ m → Q j) : m.val + 1 ≤ (univ.filter Q).card := by
  rw [← Fin.card_Iic m]
  exact card_le_card (fun j hj => Finset.mem_filter.mpr ⟨mem_univ _, h j (Finset.mem_Iic.mp hj)⟩)

theorem le_card_filter_of_ge {n : Nat} (Q : Fin n → Prop) [DecidablePred Q] (m : Fin n)
    (h : ∀ j, m ≤ j → Q j) : n - m.val ≤ (univ.filter Q).card := by
  rw [← Fin.card_Ici m]
  exact card_le_card (fun j hj => Finset.mem_filter.mpr ⟨mem_univ _, h j (Finset.mem_Ici.mp hj)⟩)

theorem Sel.valid {n : Nat} {P : PB} (hP : WFS n P) (w : Fin n → Rat) (h : Sel n P hP w) : Valid n P w := by
  rw [valid_iff hP.llen hP.rlen]
  intro i
  constructor
  · apply card_filter_le_of_lt _ i
    intro m hm
    by_contra hge
    exact absurd hm (not_lt.mpr (le_trans (sorted_getElem_le hP.lsorted (not_lt.mp hge) _) (h m).1))
  · apply card_filter_le_of_gt _ i
    intro m hm
    by_contra hge
    exact absurd hm (not_lt.mpr (le_trans (h m).2 (sorted_getElem_le hP.rsorted (not_lt.mp hge) _)))

theorem Valid.sel_of_monotone {n : Nat} {P : PB} (hP : WFS n P) (w : Fin n → Rat) (hw : Monotone w)
    (h : Valid n P w) : Sel n P hP w := by
  intro m
  obtain ⟨v1, v2⟩ := (valid_iff hP.llen hP.rlen).mp h m
  constructor
  · by_contra hlt
    have := lt_card_filter_of_le _ m (fun j hj => lt_of_le_of_lt (hw hj) (not_le.mp hlt))
    omega
  · by_contra hlt
    have := le_card_filter_of_ge _ m (fun j hj => lt_of_lt_of_le (not_le.mp hlt) (hw hj))
    have := m.isLt
    omega

/-! ## pointwise ordered lists -/

theorem forall₂_of_wf (n : Nat) (X : PB) (hX : WF n X) : List.Forall₂ (· ≤ ·) X.left X.right := by
  rw [List.forall₂_iff_get]
  refine ⟨by rw [hX.llen, hX.rlen], fun i hi hi' => ?_⟩
  simp only [List.get_eq_getElem]
  exact hX.le i (by rw [← hX.llen]; exact hi)

theorem mk_sorted_ok (n : Nat) (l r : List Rat) (hl : l.length = n) (hr : r.length = n)
    (hle : List.Forall₂ (· ≤ ·) l r) :
    mk n false (sortR l) (sortR r) = .ok ⟨sortR l, sortR r⟩ ∧ WF n ⟨sortR l, sortR r⟩ := by
  have h2 := sortR_forall₂ hle
  have ll : (sortR l).length = n := by rw [sortR_length, hl]
  have lr : (sortR r).length = n := by rw [sortR_length, hr]
  refine ⟨mk_arr_ok n _ _ ll lr (sortR_sorted l) (sortR_sorted r) (fun i h => getElem_le_of_forall₂ h2 i h _),
    ⟨⟨ll, lr, sortR_sorted l, sortR_sorted r⟩, fun i h => getElem_le_of_forall₂ h2 i (by rw [ll]; exact h) _⟩⟩

/-! ## the antitone involutions: `flipB φ` (negation, reciprocal) -/

def flipB (φ : Rat → Rat) (p : PB) : PB := ⟨p.right.reverse.map φ, p.left.reverse.map φ⟩

abbrev negB (p : PB) : PB := flipB (fun v => -v) p

abbrev recipB (p : PB) : PB := flipB (fun v => 1 / v) p

theorem flipB_llen (φ : Rat → Rat) (p : PB) : (flipB φ p).left.length = p.right.length := by simp [flipB]

theorem flipB_rlen (φ : Rat → Rat) (p : PB) : (flipB φ p).right.length = p.left.length := by simp [flipB]

theorem flipB_left_getElem (φ : Rat → Rat) (p : PB) {n : Nat} (hr : p.right.length = n) (m : Fin n)
    (h : m.val < (flipB φ p).left.length) :
    (flipB φ p).left[m.val] = φ (p.right[(Fin.rev m).val]'(by rw [hr]; exact (Fin.rev m).isLt)) := by
  simp only [flipB, List.getElem_map, List.getElem_reverse, Fin.val_rev]
  congr 2
  omega

theorem flipB_right_getElem (φ : Rat → Rat) (p : PB) {n : Nat} (hl : p.left.length = n) (m : Fin n)
    (h : m.val < (flipB φ p).right.length) :
    (flipB φ p).right[m.val] = φ (p.left[(Fin.rev m).val]'(by rw [hl]; exact (Fin.rev m).isLt)) := by
  simp only [flipB, List.getElem_map, List.getElem_reverse, Fin.val_rev]
  congr 2
  omega

theorem Valid.neg {n : Nat} {R : PB} {z : Fin n → Rat} (hl : R.left.length = n) (hr : R.right.length = n)
    (h : Valid n R z) : Valid n (negB R) (fun m => - z m) := by
  rw [valid_iff (by rw [flipB_llen, hr]) (by rw [flipB_rlen, hl])]
  intro i
  rw [flipB_left_getElem _ R hr i, flipB_right_getElem _ R hl i]
  have key := (valid_iff hl hr).mp h (Fin.rev i)
  have hi := i.isLt
  simp only [neg_lt_neg_iff, Fin.val_rev] at key ⊢
  constructor
  · have := key.2; omega
  · have := key.1; omega

structure AntiInv (φ : Rat → Rat) (S : Rat → Prop) : Prop where
  maps : ∀ a, S a → S (φ a)
  anti : ∀ a b, S a → S b → a ≤ b → φ b ≤ φ a
  invol : ∀ a, S a → φ (φ a) = a
  convex : ∀ a b c, S a → S c → a ≤ b → b ≤ c → S b

def InS (S : Rat → Prop) (p : PB) : Prop := (∀ v ∈ p.left, S v) ∧ (∀ v ∈ p.right, S v)

theorem antiInv_neg : AntiInv (fun v => -v) (fun _ => True) :=
  ⟨fun _ _ => trivial, fun _ _ _ _ h => neg_le_neg h, fun a _ => neg_neg a, fun _ _ _ _ _ _ _ => trivial⟩

theorem inS_true (p : PB) : InS (fun _ => True) p := ⟨fun _ _ => trivial, fun _ _ => trivial⟩

theorem flip_sorted (φ : Rat → Rat) (S : Rat → Prop) (h : AntiInv φ S) (l : List Rat)
    (s : l.Pairwise (· ≤ ·)) (hS : ∀ v ∈ l, S v) : (l.reverse.map φ).Pairwise (· ≤ ·) := by
  rw [List.pairwise_map, List.pairwise_reverse]
  refine (List.Pairwise.and_mem.mp s).imp ?_
  rintro a b ⟨ha, hb, hab⟩
  exact h.anti a b (hS a ha) (hS b hb) hab

theorem inS_flipB (φ : Rat → Rat) (S : Rat → Prop) (h : AntiInv φ S) (p : PB) (hS : InS S p) : InS S (flipB φ p) :=
  ⟨List.forall_mem_map.mpr fun a ha => h.maps a (hS.2 a (List.mem_reverse.mp ha)),
    List.forall_mem_map.mpr fun a ha => h.maps a (hS.1 a (List.mem_reverse.mp ha))⟩

theorem flipB_wf (φ : Rat → Rat) (S : Rat → Prop) (h : AntiInv φ S) (n : Nat) (p : PB) (hp : WF n p)
    (hS : InS S p) : WF n (flipB φ p) ∧ InS S (flipB φ p) := by
  refine ⟨⟨⟨by rw [flipB_llen, hp.rlen], by rw [flipB_rlen, hp.llen], flip_sorted φ S h _ hp.rsorted hS.2,
    flip_sorted φ S h _ hp.lsorted hS.1⟩, ?_⟩, inS_flipB φ S h p hS⟩
  intro i hi
  rw [flipB_left_getElem φ p hp.rlen ⟨i, hi⟩, flipB_right_getElem φ p hp.llen ⟨i, hi⟩]
  exact h.anti _ _ (hS.1 _ (List.getElem_mem _)) (hS.2 _ (List.getElem_mem _)) (hp.le _ (Fin.rev ⟨i, hi⟩).isLt)

theorem sel_flipB_iff (φ : Rat → Rat) {n : Nat} {p : PB} (hp : WFS n p) (hw : WFS n (flipB φ p))
    (y : Fin n → Rat) : Sel n (flipB φ p) hw y ↔ ∀ m : Fin n,
      φ (p.right[(Fin.rev m).val]'(by rw [hp.rlen]; exact (Fin.rev m).isLt)) ≤ y m ∧
      y m ≤ φ (p.left[(Fin.rev m).val]'(by rw [hp.llen]; exact (Fin.rev m).isLt)) := by
  unfold Sel
  simp only [flipB_left_getElem φ p hp.rlen, flipB_right_getElem φ p hp.llen]

theorem sel_inS (S : Rat → Prop) (φ : Rat → Rat) (h : AntiInv φ S) (n : Nat) (p : PB) (hp : WFS n p)
    (hS : InS S p) (y : Fin n → Rat) (hy : Sel n p hp y) (m : Fin n) : S (y m) :=
  h.convex _ _ _ (hS.1 _ (List.getElem_mem _)) (hS.2 _ (List.getElem_mem _)) (hy m).1 (hy m).2

theorem sel_flipB (φ : Rat → Rat) (S : Rat → Prop) (anti : ∀ a b, S a → S b → a ≤ b → φ b ≤ φ a)
    {n : Nat} {p : PB} (hp : WFS n p) (hS : InS S p) (hw : WFS n (flipB φ p)) (y : Fin n → Rat)
    (hy : Sel n p hp y) (hSy : ∀ m, S (y m)) : Sel n (flipB φ p) hw (fun m => φ (y (Fin.rev m))) := by
  rw [sel_flipB_iff φ hp hw]
  intro m
  exact ⟨anti _ _ (hSy _) (hS.2 _ (List.getElem_mem _)) (hy (Fin.rev m)).2,
    anti _ _ (hS.1 _ (List.getElem_mem _)) (hSy _) (hy (Fin.rev m)).1⟩

theorem sel_flipB_inv (φ : Rat → Rat) (S : Rat → Prop) (h : AntiInv φ S) (n : Nat) (p : PB) (hp : WFS n p)
    (hS : InS S p) (hw : WFS n (flipB φ p)) (y' : Fin n → Rat) (hy : Sel n (flipB φ p) hw y') :
    Sel n p hp (fun m => φ (y' (Fin.rev m))) ∧ ∀ m, φ (φ (y' m)) = y' m := by
  have inS := sel_inS S φ h n (flipB φ p) hw (inS_flipB φ S h p hS) y' hy
  rw [sel_flipB_iff φ hp hw] at hy
  refine ⟨fun m => ?_, fun m => h.invol _ (inS m)⟩
  have b := hy (Fin.rev m)
  simp only [Fin.rev_rev] at b
  have sl : S (p.left[m.val]'(by rw [hp.llen]; exact m.isLt)) := hS.1 _ (List.getElem_mem _)
  have sr : S (p.right[m.val]'(by rw [hp.rlen]; exact m.isLt)) := hS.2 _ (List.getElem_mem _)
  constructor
  · have := h.anti _ _ (inS (Fin.rev m)) (h.maps _ sl) b.2
    rwa [h.invol _ sl] at this
  · have := h.anti _ _ (h.maps _ sr) (inS (Fin.rev m)) b.1
    rwa [h.invol _ sr] at this

theorem valid_flipB (φ : Rat → Rat) (hφ : ∀ x y, x ≤ y → φ y ≤ φ x) (n : Nat) (P : PB) (hP : WFS n P)
    (hw : WFS n (flipB φ P)) (w : Fin n → Rat) (h : Sel n P hP w) : Valid n (flipB φ P) (fun m => φ (w m)) := by
  have hs := sel_flipB φ (fun _ => True) (fun a b _ _ => hφ a b) hP (inS_true P) hw w h (fun _ => trivial)
  have key := (Sel.valid hw _ hs).reindex Fin.revPerm
  simp only [Fin.revPerm_apply, Fin.rev_rev] at key
  exact key

/-! ## `AllValid`, `Attained`, `Good` -/

/-- `R` bounds `op X Y` under every dependence: validity for every selection and every coupling -/
def AllValid (n : Nat) (op : Rat → Rat → Rat) (X Y R : PB) (hX : WFS n X) (hY : WFS n Y) : Prop :=
  ∀ x y : Fin n → Rat, Sel n X hX x → Sel n Y hY y → ∀ σ : Equiv.Perm (Fin n),
    Valid n R (fun m => op (x m) (y (σ m)))

def Attained (n : Nat) (op : Rat → Rat → Rat) (X Y : PB) (hX : WFS n X) (hY : WFS n Y) (i : Fin n) (v : Rat) :
    Prop :=
  ∃ x y : Fin n → Rat, Sel n X hX x ∧ Sel n Y hY y ∧ ∃ σ : Equiv.Perm (Fin n),
    IsRank n (fun m => op (x m) (y (σ m))) i v

/-- `R` bounds `op X Y` under every dependence, and best-possibly: every entry of either bound is the order
statistic of the same rank of the outcomes of some selection and coupling. -/
structure Good (n : Nat) (op : Rat → Rat → Rat) (X Y R : PB) (hX : WFS n X) (hY : WFS n Y) : Prop where
  valid : ∀ x y : Fin n → Rat, Sel n X hX x → Sel n Y hY y → ∀ σ : Equiv.Perm (Fin n),
    Valid n R (fun m => op (x m) (y (σ m)))
  tightL : ∀ (i : Fin n) (l : Rat), R.left[i.val]? = some l →
    ∃ x y : Fin n → Rat, Sel n X hX x ∧ Sel n Y hY y ∧ ∃ σ : Equiv.Perm (Fin n),
      IsRank n (fun m => op (x m) (y (σ m))) i l
  tightR : ∀ (i : Fin n) (r : Rat), R.right[i.val]? = some r →
    ∃ x y : Fin n → Rat, Sel n X hX x ∧ Sel n Y hY y ∧ ∃ σ : Equiv.Perm (Fin n),
      IsRank n (fun m => op (x m) (y (σ m))) i r

section transport
variable {n : Nat} {op op' : Rat → Rat → Rat} {X Y R : PB} {hX : WFS n X} {hY : WFS n Y}

theorem Good.allValid (g : Good n op X Y R hX hY) : AllValid n op X Y R hX hY := g.valid

theorem AllValid.congr_sel (g : AllValid n op X Y R hX hY)
    (h : ∀ x y : Fin n → Rat, Sel n X hX x → Sel n Y hY y → ∀ m k, op (x m) (y k) = op' (x m) (y k)) :
    AllValid n op' X Y R hX hY := by
  intro x y hx hy σ
  have e : (fun m => op' (x m) (y (σ m))) = (fun m => op (x m) (y (σ m))) :=
    funext (fun m => (h x y hx hy m (σ m)).symm)
  rw [e]
  exact g x y hx hy σ

theorem Attained.congr_sel {i : Fin n} {v : Rat} (g : Attained n op X Y hX hY i v)
    (h : ∀ x y : Fin n → Rat, Sel n X hX x → Sel n Y hY y → ∀ m k, op (x m) (y k) = op' (x m) (y k)) :
    Attained n op' X Y hX hY i v := by
  obtain ⟨x, y, hx, hy, σ, hr⟩ := g
  have e : (fun m => op' (x m) (y (σ m))) = (fun m => op (x m) (y (σ m))) :=
    funext (fun m => (h x y hx hy m (σ m)).symm)
  exact ⟨x, y, hx, hy, σ, by rw [e]; exact hr⟩

theorem Good.congr_sel (g : Good n op X Y R hX hY)
    (h : ∀ x y : Fin n → Rat, Sel n X hX x → Sel n Y hY y → ∀ m k, op (x m) (y k) = op' (x m) (y k)) :
    Good n op' X Y R hX hY :=
  ⟨g.allValid.congr_sel h, fun i l hl => Attained.congr_sel (g.tightL i l hl) h,
    fun i r hr => Attained.congr_sel (g.tightR i r hr) h⟩

theorem AllValid.congr (g : AllValid n op X Y R hX hY) (h : ∀ a b, op a b = op' a b) :
    AllValid n op' X Y R hX hY :=
  g.congr_sel (fun _ _ _ _ _ _ => h _ _)

theorem Good.congr (g : Good n op X Y R hX hY) (h : ∀ a b, op a b = op' a b) : Good n op' X Y R hX hY :=
  g.congr_sel (fun _ _ _ _ _ _ => h _ _)

theorem AllValid.swap (g : AllValid n op Y X R hY hX) : AllValid n (fun a b => op b a) X Y R hX hY := by
  intro x y hx hy σ
  have key := (g y x hy hx σ.symm).reindex σ
  simp only [Equiv.symm_apply_apply] at key
  exact key

theorem Attained.swap {i : Fin n} {v : Rat} (g : Attained n op Y X hY hX i v) :
    Attained n (fun a b => op b a) X Y hX hY i v := by
  obtain ⟨y, x, hy, hx, σ, hr⟩ := g
  have key := hr.reindex σ.symm
  simp only [Equiv.apply_symm_apply] at key
  exact ⟨x, y, hx, hy, σ.symm, key⟩

theorem Good.swap (g : Good n op Y X R hY hX) : Good n (fun a b => op b a) X Y R hX hY :=
  ⟨g.allValid.swap, fun i l hl => Attained.swap (g.tightL i l hl), fun i r hr => Attained.swap (g.tightR i r hr)⟩

/-! the second operand replaced by its mirror image: `op x (φ y)` on `Y` is `op x y'` on `flipB φ Y`
(selections `y ↦ φ∘y∘rev`, couplings `σ ↦ rev∘σ`) -/

theorem AllValid.flipY (φ : Rat → Rat) (S : Rat → Prop) (h : AntiInv φ S) (hY : WFS n Y) (hS : InS S Y)
    (hY' : WFS n (flipB φ Y)) (g : AllValid n op X (flipB φ Y) R hX hY') :
    AllValid n (fun a b => op a (φ b)) X Y R hX hY := by
  intro x y hx hy σ
  have key := g x (fun m => φ (y (Fin.rev m))) hx
    (sel_flipB φ S h.anti hY hS hY' y hy (sel_inS S φ h n Y hY hS y hy)) (σ.trans Fin.revPerm)
  simp only [Equiv.trans_apply, Fin.revPerm_apply, Fin.rev_rev] at key
  exact key

theorem Attained.flipY (φ : Rat → Rat) (S : Rat → Prop) (h : AntiInv φ S) (hY : WFS n Y) (hS : InS S Y)
    (hY' : WFS n (flipB φ Y)) {i : Fin n} {v : Rat} (g : Attained n op X (flipB φ Y) hX hY' i v) :
    Attained n (fun a b => op a (φ b)) X Y hX hY i v := by
  obtain ⟨x, y', hx, hy', σ, hr⟩ := g
  obtain ⟨hy, hinv⟩ := sel_flipB_inv φ S h n Y hY hS hY' y' hy'
  refine ⟨x, fun m => φ (y' (Fin.rev m)), hx, hy, σ.trans Fin.revPerm, ?_⟩
  simp only [Equiv.trans_apply, Fin.revPerm_apply, Fin.rev_rev, hinv]
  exact hr

theorem Good.flipY (φ : Rat → Rat) (S : Rat → Prop) (h : AntiInv φ S) (hY : WFS n Y) (hS : InS S Y)
    (hY' : WFS n (flipB φ Y)) (g : Good n op X (flipB φ Y) R hX hY') :
    Good n (fun a b => op a (φ b)) X Y R hX hY :=
  ⟨g.allValid.flipY φ S h hY hS hY', fun i l hl => Attained.flipY φ S h hY hS hY' (g.tightL i l hl),
    fun i r hr => Attained.flipY φ S h hY hS hY' (g.tightR i r hr)⟩

theorem Good.flipX (φ : Rat → Rat) (S : Rat → Prop) (h : AntiInv φ S) (hX : WFS n X) (hS : InS S X)
    (hX' : WFS n (flipB φ X)) (g : Good n op (flipB φ X) Y R hX' hY) :
    Good n (fun a b => op (φ a) b) X Y R hX hY :=
  (g.swap.flipY φ S h hX hS hX').swap

theorem Attained.neg {i : Fin n} {v : Rat} (g : Attained n op X Y hX hY i v) :
    Attained n (fun a b => -(op a b)) X Y hX hY (Fin.rev i) (-v) := by
  obtain ⟨x, y, hx, hy, σ, hr⟩ := g
  exact ⟨x, y, hx, hy, σ, hr.neg⟩

theorem Good.negOut (hl : R.left.length = n) (hr : R.right.length = n) (g : Good n op X Y R hX hY) :
    Good n (fun a b => -(op a b)) X Y (negB R) hX hY := by
  refine ⟨fun x y hx hy σ => (g.valid x y hx hy σ).neg hl hr, ?_, ?_⟩
  · intro i l hl'
    obtain ⟨_, rfl⟩ := List.getElem?_eq_some_iff.mp hl'
    rw [flipB_left_getElem _ R hr i]
    have := Attained.neg (g.tightR (Fin.rev i) (R.right[(Fin.rev i).val]'(by rw [hr]; exact (Fin.rev i).isLt))
      (List.getElem?_eq_getElem _))
    rwa [Fin.rev_rev] at this
  · intro i r hr'
    obtain ⟨_, rfl⟩ := List.getElem?_eq_some_iff.mp hr'
    rw [flipB_right_getElem _ R hl i]
    have := Attained.neg (g.tightL (Fin.rev i) (R.left[(Fin.rev i).val]'(by rw [hl]; exact (Fin.rev i).isLt))
      (List.getElem?_eq_getElem _))
    rwa [Fin.rev_rev] at this

end transport

/-- **validity composes**: sort both families, they become selections, and the index correspondence becomes a
coupling -/
theorem AllValid.comp {n : Nat} {op : Rat → Rat → Rat} {P Q R : PB} {hP : WFS n P} {hQ : WFS n Q}
    (h : AllValid n op P Q R hP hQ) (u v : Fin n → Rat) (hu : Valid n P u) (hv : Valid n Q v) :
    Valid n R (fun m => op (u m) (v m)) := by
  have su := Valid.sel_of_monotone hP (fun m => u (Tuple.sort u m)) (Tuple.monotone_sort u)
    (hu.reindex (Tuple.sort u))
  have sv := Valid.sel_of_monotone hQ (fun m => v (Tuple.sort v m)) (Tuple.monotone_sort v)
    (hv.reindex (Tuple.sort v))
  have key := (h _ _ su sv ((Tuple.sort u).trans (Tuple.sort v).symm)).reindex (Tuple.sort u).symm
  simp only [Equiv.trans_apply, Equiv.apply_symm_apply] at key
  exact key

end Pun.PBox
