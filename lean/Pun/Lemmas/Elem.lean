import Pun.Model.Elem
import Mathlib.Tactic.Linarith
import Mathlib.Algebra.Order.Field.Basic
import Mathlib.Algebra.Order.Field.Rat
import Mathlib.Algebra.Order.Floor.Ring
import Mathlib.Data.Rat.Floor
/-!
# The trigonometric case analyses over an arbitrary linear ordered field

The case analyses of `Pun.Model.Elem` (`sinShape cosShape tanInf bounds`, `%`) are restated over a
linear ordered field `K` (`sinShapeK …`, same text; at `K = ℚ` they ARE the model's functions, `*_rat`)
and proved sound there, so that the same theorems serve the model (`K = ℚ`, `Props/C05.lean`) and
Mathlib's real functions (`K = ℝ`, `Props/C05Real.lean`).

The integers of the reduction modulo the period are dealt with once, in `reduced_rangeK`: a point of
`[lo, hi]` reduces into the arc from the reduced `lo` to the reduced `hi`.  After it, soundness of a
case table is an argument about the order of three points of `[0, T)`.
-/
namespace Pun.Elem

theorem ite_some_cases {α : Type*} {c : Prop} [Decidable c] {a b : α} {r : Option α}
    (h : (if c then some a else r) = some b) : c ∧ a = b ∨ ¬c ∧ r = some b := by
  by_cases hc : c
  · rw [if_pos hc] at h
    exact Or.inl ⟨hc, Option.some.inj h⟩
  · rw [if_neg hc] at h
    exact Or.inr ⟨hc, h⟩

theorem period_zero {R β : Type*} [Ring R] {s : R → β} {T : R} (per : ∀ (x : R) (k : ℤ), s (x + k * T) = s x) :
    s T = s 0 := by
  have h := per 0 1
  rwa [Int.cast_one, one_mul, zero_add] at h

section order
variable {α β : Type*} [LinearOrder α] [LinearOrder β] {s : α → β} {a b c yl yx yh : α}

theorem between_of_mono (mono : ∀ u v, a ≤ u → u ≤ v → v ≤ b → s u ≤ s v)
    (ha : a ≤ yl) (h : yl ≤ yx ∧ yx ≤ yh) (hb : yh ≤ b) : s yl ≤ s yx ∧ s yx ≤ s yh :=
  ⟨mono yl yx ha h.1 (h.2.trans hb), mono yx yh (ha.trans h.1) h.2 hb⟩

theorem between_of_anti (anti : ∀ u v, a ≤ u → u ≤ v → v ≤ b → s v ≤ s u)
    (ha : a ≤ yl) (h : yl ≤ yx ∧ yx ≤ yh) (hb : yh ≤ b) : s yh ≤ s yx ∧ s yx ≤ s yl :=
  (between_of_mono (β := βᵒᵈ) anti ha h hb).symm

theorem min_le_of_peak (mono : ∀ u v, a ≤ u → u ≤ v → v ≤ c → s u ≤ s v)
    (anti : ∀ u v, c ≤ u → u ≤ v → v ≤ b → s v ≤ s u) (ha : a ≤ yl) (h : yl ≤ yx ∧ yx ≤ yh) (hb : yh ≤ b) :
    min (s yl) (s yh) ≤ s yx := by
  rcases le_total yx c with hc | hc
  · exact min_le_of_left_le (mono yl yx ha h.1 hc)
  · exact min_le_of_right_le (anti yx yh hc h.2 hb)

theorem le_max_of_valley (anti : ∀ u v, a ≤ u → u ≤ v → v ≤ c → s v ≤ s u)
    (mono : ∀ u v, c ≤ u → u ≤ v → v ≤ b → s u ≤ s v) (ha : a ≤ yl) (h : yl ≤ yx ∧ yx ≤ yh) (hb : yh ≤ b) :
    s yx ≤ max (s yl) (s yh) :=
  min_le_of_peak (β := βᵒᵈ) anti mono ha h hb

theorem arc_cases (hr : (yl ≤ yx ∧ yx ≤ yh) ∨ (yh < yl ∧ (yl ≤ yx ∨ yx ≤ yh))) :
    (yl ≤ yx ∨ yx ≤ yh) ∧ (yl ≤ yh → yl ≤ yx ∧ yx ≤ yh) :=
  ⟨hr.elim (fun h => Or.inl h.1) And.right, fun c => hr.resolve_right fun h => not_le.mpr h.1 c⟩

end order

section generic
variable {K : Type*} [Field K] [LinearOrder K] [IsStrictOrderedRing K]

def boundsK (sl sh : K) : Shape → K × K
  | .full => (-1, 1)
  | .lh => (sl, sh)
  | .hl => (sh, sl)
  | .minTo1 => (min sl sh, 1)
  | .m1ToMax => (-1, max sl sh)

def sinShapeK (w yl yh T : K) : Option Shape :=
  let Q := T / 4
  let d1 := fun x : K => 0 ≤ x ∧ x ≤ Q
  let d2 := fun x : K => Q ≤ x ∧ x ≤ 3 * Q
  let d3 := fun x : K => 3 * Q ≤ x ∧ x ≤ T
  if T ≤ w then some .full
  else if (0 ≤ yl ∧ yh ≤ Q) ∧ yl ≤ yh then some .lh
  else if (Q ≤ yl ∧ yh ≤ 3 * Q) ∧ yl ≤ yh then some .hl
  else if (3 * Q ≤ yl ∧ yh ≤ T) ∧ yl ≤ yh then some .lh
  else if (d1 yl ∧ d1 yh ∧ yh < yl) ∨ (d1 yl ∧ d3 yh) ∨ (d2 yl ∧ d2 yh ∧ yh < yl) ∨ (d3 yl ∧ d3 yh ∧ yh < yl)
    then some .full
  else if (d1 yl ∧ d1 yh ∧ yl ≤ yh) ∨ (d3 yl ∧ d1 yh) ∨ (d3 yl ∧ d3 yh ∧ yl ≤ yh) then some .lh
  else if (d1 yl ∧ d2 yh) ∨ (d3 yl ∧ d2 yh) then some .minTo1
  else if (d2 yl ∧ d1 yh) ∨ (d2 yl ∧ d3 yh) then some .m1ToMax
  else if d2 yl ∧ d2 yh ∧ yl ≤ yh then some .hl
  else none

def cosShapeK (w yl yh T : K) : Option Shape :=
  let H := T / 2
  let d1 := fun x : K => 0 ≤ x ∧ x ≤ H
  let d2 := fun x : K => H ≤ x ∧ x ≤ T
  if T ≤ w then some .full
  else if (yh < yl ∧ d1 yl ∧ d1 yh) ∨ (yh < yl ∧ d2 yl ∧ d2 yh) then some .full
  else if yl ≤ yh ∧ d2 yl ∧ d2 yh then some .lh
  else if d2 yl ∧ d1 yh then some .minTo1
  else if d1 yl ∧ d2 yh then some .m1ToMax
  else if yl ≤ yh ∧ d1 yl ∧ d1 yh then some .hl
  else none

def tanInfK (w zl zh P : K) : Bool :=
  let H := P / 2
  let d1 := fun x : K => 0 ≤ x ∧ x ≤ H
  let d2 := fun x : K => H ≤ x ∧ x ≤ P
  decide (P ≤ w ∨ (zh < zl ∧ d1 zl ∧ d1 zh) ∨ (zh < zl ∧ d2 zl ∧ d2 zh) ∨ (d1 zl ∧ d2 zh))

/-! ## reduction modulo the period -/

/-- the period index is monotone: remainders lie in `[0, T)`, so a smaller point cannot have a larger index -/
theorem index_le_of_le {T a b : K} {k m : ℤ} (hT : 0 < T) (ha : 0 ≤ a) (hb : b < T)
    (h : a + k * T ≤ b + m * T) : k ≤ m := by
  have hlt : (k : K) * T < (m + 1) * T :=
    calc (k : K) * T ≤ a + k * T := le_add_of_nonneg_left ha
      _ ≤ b + m * T := h
      _ < T + m * T := add_lt_add_left hb _
      _ = (m + 1) * T := by rw [add_one_mul, add_comm]
  have hkm : (k : K) < ((m + 1 : ℤ) : K) := by
    rw [Int.cast_add, Int.cast_one]
    exact lt_of_mul_lt_mul_right hlt hT.le
  exact Int.lt_add_one_iff.mp (Int.cast_lt.mp hkm)

/-- Where a point of `[lo, hi]` lands after reduction, given width `< T`: between the reduced endpoints
when these are in order, and otherwise (the interval contains a multiple of `T`) above the reduced `lo`
or below the reduced `hi`.  A reduction is given by its defining decomposition `lo = yl + kl·T`,
`0 ≤ yl < T`. -/
theorem reduced_rangeK {T lo hi x yl yh yx : K} {kl kh kx : ℤ} (hT : 0 < T)
    (hlo : lo = yl + kl * T ∧ 0 ≤ yl ∧ yl < T) (hhi : hi = yh + kh * T ∧ 0 ≤ yh ∧ yh < T)
    (hx : x = yx + kx * T ∧ 0 ≤ yx ∧ yx < T) (h1 : lo ≤ x) (h2 : x ≤ hi) (hw : hi - lo < T) :
    (yl ≤ yx ∧ yx ≤ yh) ∨ (yh < yl ∧ (yl ≤ yx ∨ yx ≤ yh)) := by
  obtain ⟨rfl, hyl0, hylT⟩ := hlo
  obtain ⟨rfl, hyh0, hyhT⟩ := hhi
  obtain ⟨rfl, hyx0, hyxT⟩ := hx
  have hk1 : kl ≤ kx := index_le_of_le hT hyl0 hyxT h1
  have hk2 : kx ≤ kh := index_le_of_le hT hyx0 hyhT h2
  have hk3 : kh ≤ kl + 1 := index_le_of_le hT hyh0 hylT (by push_cast; linarith)
  -- `kl ≤ kx ≤ kh ≤ kl + 1`: all three equal, or `kh = kl + 1` and `kx` is one of the two
  rcases hk3.eq_or_lt with rfl | hlt
  · push_cast at h2 hw
    refine Or.inr ⟨by linarith, ?_⟩
    rcases hk1.eq_or_lt with rfl | hlt
    · exact Or.inl (by linarith)
    · obtain rfl : kx = kl + 1 := le_antisymm hk2 hlt
      push_cast at h2
      exact Or.inr (by linarith)
  · obtain rfl : kh = kl := le_antisymm (Int.lt_add_one_iff.mp hlt) (hk1.trans hk2)
    obtain rfl : kx = kh := le_antisymm hk2 hk1
    exact Or.inl ⟨by linarith, by linarith⟩

/-! ## soundness of the case tables

`s` is any function with the order properties listed; the reduced point `yx` lies on the arc from
`yl` to `yh` (`reduced_rangeK`), and each row of a table puts that arc on stretches where `s` is
monotone. -/

/-- Soundness of the cosine case analysis for ANY function that is `T`-periodic, bounded by ±1,
antitone on the first half period and monotone on the second. -/
theorem cos_soundK (s : K → K) (T : K) (hT : 0 < T)
    (per : ∀ (x : K) (k : ℤ), s (x + k * T) = s x)
    (bd : ∀ x, -1 ≤ s x ∧ s x ≤ 1)
    (anti : ∀ u v, 0 ≤ u → u ≤ v → v ≤ T / 2 → s v ≤ s u)
    (mono : ∀ u v, T / 2 ≤ u → u ≤ v → v ≤ T → s u ≤ s v)
    {lo hi x yl yh yx : K} {kl kh kx : ℤ}
    (hlo : lo = yl + kl * T ∧ 0 ≤ yl ∧ yl < T) (hhi : hi = yh + kh * T ∧ 0 ≤ yh ∧ yh < T)
    (hx : x = yx + kx * T ∧ 0 ≤ yx ∧ yx < T) (h1 : lo ≤ x) (h2 : x ≤ hi) {sh : Shape}
    (hsh : cosShapeK (hi - lo) yl yh T = some sh) :
    (boundsK (s yl) (s yh) sh).1 ≤ s x ∧ s x ≤ (boundsK (s yl) (s yh) sh).2 := by
  rw [hx.1, per]
  have hb := bd yx
  simp only [cosShapeK] at hsh
  rcases ite_some_cases hsh with ⟨-, rfl⟩ | ⟨hw, hsh⟩
  · exact hb
  obtain ⟨arc, ordered⟩ := arc_cases (reduced_rangeK hT hlo hhi hx h1 h2 (not_le.mp hw))
  rcases ite_some_cases hsh with ⟨-, rfl⟩ | ⟨-, hsh⟩
  · exact hb
  rcases ite_some_cases hsh with ⟨⟨c, ⟨a, -⟩, ⟨-, b⟩⟩, rfl⟩ | ⟨-, hsh⟩
  · exact between_of_mono mono a (ordered c) b
  rcases ite_some_cases hsh with ⟨⟨⟨a, -⟩, ⟨-, b⟩⟩, rfl⟩ | ⟨-, hsh⟩
  · -- `yl` in the second half, `yh` in the first: the arc passes `T`, where `s` is largest
    refine ⟨?_, hb.2⟩
    rcases arc with p | q
    · exact min_le_of_left_le (mono yl yx a p hx.2.2.le)
    · exact min_le_of_right_le (anti yx yh hx.2.1 q b)
  rcases ite_some_cases hsh with ⟨⟨⟨a, a'⟩, ⟨b, b'⟩⟩, rfl⟩ | ⟨-, hsh⟩
  · exact ⟨hb.1, le_max_of_valley anti mono a (ordered (a'.trans b)) b'⟩
  rcases ite_some_cases hsh with ⟨⟨c, ⟨a, -⟩, ⟨-, b⟩⟩, rfl⟩ | ⟨-, hsh⟩
  · exact between_of_anti anti a (ordered c) b
  cases hsh

/-- Soundness of the sine case analysis for any function that is `T`-periodic, bounded by ±1,
increasing / decreasing / increasing on the three pieces cut at `T/4`, `3T/4`. -/
theorem sin_soundK (s : K → K) (T : K) (hT : 0 < T)
    (per : ∀ (x : K) (k : ℤ), s (x + k * T) = s x)
    (bd : ∀ x, -1 ≤ s x ∧ s x ≤ 1)
    (m1 : ∀ u v, 0 ≤ u → u ≤ v → v ≤ T / 4 → s u ≤ s v)
    (a2 : ∀ u v, T / 4 ≤ u → u ≤ v → v ≤ 3 * (T / 4) → s v ≤ s u)
    (m3 : ∀ u v, 3 * (T / 4) ≤ u → u ≤ v → v ≤ T → s u ≤ s v)
    {lo hi x yl yh yx : K} {kl kh kx : ℤ}
    (hlo : lo = yl + kl * T ∧ 0 ≤ yl ∧ yl < T) (hhi : hi = yh + kh * T ∧ 0 ≤ yh ∧ yh < T)
    (hx : x = yx + kx * T ∧ 0 ≤ yx ∧ yx < T) (h1 : lo ≤ x) (h2 : x ≤ hi) {sh : Shape}
    (hsh : sinShapeK (hi - lo) yl yh T = some sh) :
    (boundsK (s yl) (s yh) sh).1 ≤ s x ∧ s x ≤ (boundsK (s yl) (s yh) sh).2 := by
  rw [hx.1, per]
  have hb := bd yx
  simp only [sinShapeK] at hsh
  rcases ite_some_cases hsh with ⟨-, rfl⟩ | ⟨hw, hsh⟩
  · exact hb
  obtain ⟨arc, ordered⟩ := arc_cases (reduced_rangeK hT hlo hhi hx h1 h2 (not_le.mp hw))
  obtain ⟨-, hyx0, hyxT⟩ := hx
  -- the increasing stretches `[3T/4, T]` and `[0, T/4]` join at `T ≡ 0`
  have wrap : ∀ u v, 3 * (T / 4) ≤ u → u ≤ T → 0 ≤ v → v ≤ T / 4 → s u ≤ s v := fun u v hu huT hv hvQ =>
    calc s u ≤ s T := m3 u T hu huT le_rfl
      _ = s 0 := period_zero per
      _ ≤ s v := m1 0 v le_rfl hv hvQ
  rcases ite_some_cases hsh with ⟨⟨⟨a, b⟩, c⟩, rfl⟩ | ⟨-, hsh⟩
  · exact between_of_mono m1 a (ordered c) b
  rcases ite_some_cases hsh with ⟨⟨⟨a, b⟩, c⟩, rfl⟩ | ⟨-, hsh⟩
  · exact between_of_anti a2 a (ordered c) b
  rcases ite_some_cases hsh with ⟨⟨⟨a, b⟩, c⟩, rfl⟩ | ⟨-, hsh⟩
  · exact between_of_mono m3 a (ordered c) b
  rcases ite_some_cases hsh with ⟨-, rfl⟩ | ⟨-, hsh⟩
  · exact hb
  rcases ite_some_cases hsh with ⟨c2, rfl⟩ | ⟨-, hsh⟩
  · rcases c2 with ⟨⟨a, -⟩, ⟨-, b⟩, c⟩ | ⟨⟨a, a'⟩, ⟨b, b'⟩⟩ | ⟨⟨a, -⟩, ⟨-, b⟩, c⟩
    · exact between_of_mono m1 a (ordered c) b
    · rcases arc with p | q
      · exact ⟨m3 yl yx a p hyxT.le, wrap yx yh (a.trans p) hyxT.le b b'⟩
      · exact ⟨wrap yl yx a a' hyx0 (q.trans b'), m1 yx yh hyx0 q b'⟩
    · exact between_of_mono m3 a (ordered c) b
  rcases ite_some_cases hsh with ⟨c3, rfl⟩ | ⟨-, hsh⟩
  · refine ⟨?_, hb.2⟩
    rcases c3 with ⟨⟨a, a'⟩, ⟨b, b'⟩⟩ | ⟨⟨a, a'⟩, ⟨-, b'⟩⟩
    · exact min_le_of_peak m1 a2 a (ordered (a'.trans b)) b'
    · rcases arc with p | q
      · exact min_le_of_left_le (m3 yl yx a p hyxT.le)
      · rcases le_total yx (T / 4) with h | h
        · exact min_le_of_left_le (wrap yl yx a a' hyx0 h)
        · exact min_le_of_right_le (a2 yx yh h q b')
  rcases ite_some_cases hsh with ⟨c4, rfl⟩ | ⟨-, hsh⟩
  · refine ⟨hb.1, ?_⟩
    rcases c4 with ⟨⟨a, -⟩, ⟨b, b'⟩⟩ | ⟨⟨a, a'⟩, ⟨b, b'⟩⟩
    · rcases arc with p | q
      · rcases le_total yx (3 * (T / 4)) with h | h
        · exact le_max_of_le_left (a2 yl yx a p h)
        · exact le_max_of_le_right (wrap yx yh h hyxT.le b b')
      · exact le_max_of_le_right (m1 yx yh hyx0 q b')
    · exact le_max_of_valley a2 m3 a (ordered (a'.trans b)) b'
  rcases ite_some_cases hsh with ⟨⟨⟨a, -⟩, ⟨-, b⟩, c⟩, rfl⟩ | ⟨-, hsh⟩
  · exact between_of_anti a2 a (ordered c) b
  cases hsh

/-- Soundness of the tangent case analysis when it answers "bounded", for any function with period
`P`, increasing on `[0, P/2)` and on `(P/2, P]`: the reduced point is not the pole `P/2`. -/
theorem tan_soundK (t : K → K) (P : K) (hP : 0 < P)
    (per : ∀ (x : K) (k : ℤ), t (x + k * P) = t x)
    (m1 : ∀ u v, 0 ≤ u → u ≤ v → v < P / 2 → t u ≤ t v)
    (m2 : ∀ u v, P / 2 < u → u ≤ v → v ≤ P → t u ≤ t v)
    {lo hi x zl zh zx : K} {kl kh kx : ℤ}
    (hlo : lo = zl + kl * P ∧ 0 ≤ zl ∧ zl < P) (hhi : hi = zh + kh * P ∧ 0 ≤ zh ∧ zh < P)
    (hx : x = zx + kx * P ∧ 0 ≤ zx ∧ zx < P) (h1 : lo ≤ x) (h2 : x ≤ hi)
    (hfin : tanInfK (hi - lo) zl zh P = false) :
    zx ≠ P / 2 ∧ t zl ≤ t x ∧ t x ≤ t zh := by
  rw [hx.1, per]
  simp only [tanInfK, decide_eq_false_iff_not, not_or] at hfin
  obtain ⟨hw, c1, c2, c3⟩ := hfin
  have hr := reduced_rangeK hP hlo hhi hx h1 h2 (not_le.mp hw)
  obtain ⟨-, hzl0, hzlP⟩ := hlo
  obtain ⟨-, hzh0, hzhP⟩ := hhi
  obtain ⟨-, hzx0, hzxP⟩ := hx
  rcases hr with ⟨p, q⟩ | ⟨hwr, pq⟩
  · rcases le_or_gt zl (P / 2) with a | a
    · have b : zh < P / 2 := not_le.mp fun hc => c3 ⟨⟨hzl0, a⟩, ⟨hc, hzhP.le⟩⟩
      exact ⟨(q.trans_lt b).ne, m1 zl zx hzl0 p (q.trans_lt b), m1 zx zh hzx0 q b⟩
    · exact ⟨(a.trans_le p).ne', m2 zl zx a p hzxP.le, m2 zx zh (a.trans_le p) q hzhP.le⟩
  · -- the arc passes `P ≡ 0`; it avoids the pole only if it starts after it and ends before it
    have a : P / 2 < zl := not_le.mp fun hc => c1 ⟨hwr, ⟨hzl0, hc⟩, ⟨hzh0, hwr.le.trans hc⟩⟩
    have b : zh < P / 2 := not_le.mp fun hc => c2 ⟨hwr, ⟨a.le, hzlP.le⟩, ⟨hc, hzhP.le⟩⟩
    have wrap : ∀ u v, P / 2 < u → u ≤ P → 0 ≤ v → v < P / 2 → t u ≤ t v := fun u v hu huP hv hvH =>
      calc t u ≤ t P := m2 u P hu huP le_rfl
        _ = t 0 := period_zero per
        _ ≤ t v := m1 0 v le_rfl hv hvH
    rcases pq with p | q
    · exact ⟨(a.trans_le p).ne', m2 zl zx a p hzxP.le, wrap zx zh (a.trans_le p) hzxP.le hzh0 b⟩
    · exact ⟨(q.trans_lt b).ne, wrap zl zx a hzlP.le hzx0 (q.trans_lt b), m1 zx zh hzx0 q b⟩

variable [FloorRing K]

/-- `x % T` over `K` -/
def fmodK (x T : K) : K := x - T * ⌊x / T⌋

theorem fmod_decompK (x T : K) (hT : 0 < T) :
    x = fmodK x T + (⌊x / T⌋ : ℤ) * T ∧ 0 ≤ fmodK x T ∧ fmodK x T < T := by
  unfold fmodK
  refine ⟨by rw [mul_comm T, sub_add_cancel], ?_, ?_⟩
  · exact sub_nonneg.mpr ((le_div_iff₀' hT).mp (Int.floor_le (x / T)))
  · rw [sub_lt_iff_lt_add, add_comm, ← mul_add_one]
    exact (div_lt_iff₀' hT).mp (Int.lt_floor_add_one (x / T))

end generic

/-! ## at `K = ℚ` the generic functions ARE the model's functions -/

theorem boundsK_rat (sl sh : ℚ) (s : Shape) : boundsK sl sh s = bounds sl sh s := rfl

theorem sinShapeK_rat (w yl yh T : ℚ) : sinShapeK w yl yh T = sinShape w yl yh T := by
  unfold sinShapeK sinShape
  with_reducible_and_instances rfl

theorem cosShapeK_rat (w yl yh T : ℚ) : cosShapeK w yl yh T = cosShape w yl yh T := by
  unfold cosShapeK cosShape
  with_reducible_and_instances rfl

theorem tanInfK_rat (w zl zh P : ℚ) : tanInfK w zl zh P = tanInf w zl zh P := by
  unfold tanInfK tanInf
  with_reducible_and_instances rfl

theorem fmodK_rat (x T : ℚ) : fmodK x T = fmodR x T := rfl

end Pun.Elem
