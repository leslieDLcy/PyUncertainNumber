import Mathlib.Data.Fintype.Perm
import Mathlib.Tactic.Linarith
import Mathlib.Order.Interval.Finset.Fin
/-!
# Frechet bounds, abstract form (any linear order, any `n`, any permutation coupling)

* `card_add_card_le` — inclusion–exclusion for two index sets and a coupling; `count_ge`, `count_le` are
  its instances for upper and lower sets, `card_filter_le_of_excl` the form the validity theorems use;
* `frechet_left_valid`, `frechet_right_valid` — for `op` monotone in both arguments, sorted bounding
  selections and ANY coupling `σ`, at most `j+k` outcomes fall below `op (a j) (b k)` and at most
  `(n-1-j)+(n-1-k)` above `op (A j) (B k)`;
* `frechet_left_tight`, `frechet_right_tight` — the anti-diagonal coupling attains the left bound
  (resp. the right bound) at rank `i`.
-/
namespace Pun.Frechet
open Finset
variable {α : Type*} [LinearOrder α]

theorem card_filter_comp_perm {n : ℕ} (σ : Equiv.Perm (Fin n)) (p : Fin n → Prop) [DecidablePred p] :
    (univ.filter (fun m => p (σ m))).card = (univ.filter p).card := by
  rw [← card_map σ.toEmbedding]
  congr 1
  ext m
  simp

theorem card_add_card_le {n : ℕ} (σ : Equiv.Perm (Fin n)) (S T : Finset (Fin n)) :
    S.card + T.card ≤ n + (univ.filter (fun m => m ∈ S ∧ σ m ∈ T)).card := by
  have hT : (univ.filter (fun m => σ m ∈ T)).card = T.card := by
    rw [card_filter_comp_perm σ (· ∈ T), filter_mem_eq_inter, univ_inter]
  have hI : univ.filter (fun m => m ∈ S ∧ σ m ∈ T) = S ∩ univ.filter (fun m => σ m ∈ T) := by
    ext m; simp
  have hU := card_union_add_card_inter S (univ.filter (fun m => σ m ∈ T))
  have hle := card_le_univ (S ∪ univ.filter (fun m => σ m ∈ T))
  rw [Fintype.card_fin] at hle
  rw [hI]
  omega

theorem count_ge {n : ℕ} (σ : Equiv.Perm (Fin n)) (j k : Fin n) :
    n - (j.val + k.val) ≤ (univ.filter (fun m : Fin n => j ≤ m ∧ k ≤ σ m)).card := by
  have h := card_add_card_le σ (Ici j) (Ici k)
  simp only [mem_Ici, Fin.card_Ici] at h
  omega

theorem count_le {n : ℕ} (σ : Equiv.Perm (Fin n)) (j k : Fin n) :
    (j.val + 1) + (k.val + 1) - n ≤ (univ.filter (fun m : Fin n => m ≤ j ∧ σ m ≤ k)).card := by
  have h := card_add_card_le σ (Iic j) (Iic k)
  simp only [mem_Iic, Fin.card_Iic] at h
  omega

theorem card_filter_le_of_excl {n : ℕ} (σ : Equiv.Perm (Fin n)) (S T : Finset (Fin n))
    (bad : Fin n → Prop) [DecidablePred bad] (h : ∀ m, m ∈ S → σ m ∈ T → ¬ bad m) :
    (univ.filter bad).card ≤ (n - S.card) + (n - T.card) := by
  have hST := card_add_card_le σ S T
  have hdisj : Disjoint (univ.filter bad) (univ.filter (fun m => m ∈ S ∧ σ m ∈ T)) := by
    rw [disjoint_filter]
    exact fun m _ hb hm => h m hm.1 hm.2 hb
  have hle := card_le_univ (univ.filter bad ∪ univ.filter (fun m => m ∈ S ∧ σ m ∈ T))
  rw [card_union_of_disjoint hdisj, Fintype.card_fin] at hle
  omega

theorem frechet_left_valid {n : ℕ} (op : α → α → α)
    (hop : ∀ p p' q q', p ≤ p' → q ≤ q' → op p q ≤ op p' q')
    (a b x y : Fin n → α) (ha : Monotone a) (hb : Monotone b)
    (hx : ∀ m, a m ≤ x m) (hy : ∀ m, b m ≤ y m)
    (σ : Equiv.Perm (Fin n)) (j k : Fin n) :
    (univ.filter (fun m : Fin n => op (x m) (y (σ m)) < op (a j) (b k))).card ≤ j.val + k.val := by
  have h := card_filter_le_of_excl σ (Ici j) (Ici k) (fun m => op (x m) (y (σ m)) < op (a j) (b k))
    (fun m hm hm' => not_lt.mpr (hop _ _ _ _ ((ha (mem_Ici.mp hm)).trans (hx m))
      ((hb (mem_Ici.mp hm')).trans (hy _))))
  rw [Fin.card_Ici, Fin.card_Ici] at h
  omega

theorem frechet_right_valid {n : ℕ} (op : α → α → α)
    (hop : ∀ p p' q q', p ≤ p' → q ≤ q' → op p q ≤ op p' q')
    (A B x y : Fin n → α) (hA : Monotone A) (hB : Monotone B)
    (hx : ∀ m, x m ≤ A m) (hy : ∀ m, y m ≤ B m)
    (σ : Equiv.Perm (Fin n)) (j k : Fin n) :
    (univ.filter (fun m : Fin n => op (A j) (B k) < op (x m) (y (σ m)))).card
      ≤ (n - 1 - j.val) + (n - 1 - k.val) := by
  have h := card_filter_le_of_excl σ (Iic j) (Iic k) (fun m => op (A j) (B k) < op (x m) (y (σ m)))
    (fun m hm hm' => not_lt.mpr (hop _ _ _ _ ((hx m).trans (hA (mem_Iic.mp hm)))
      ((hy _).trans (hB (mem_Iic.mp hm')))))
  rw [Fin.card_Iic, Fin.card_Iic] at h
  omega

theorem rank_of_block {n : ℕ} (z : Fin n → α) (L : α) (I : Finset (Fin n)) (js : Fin n)
    (hjs : js ∈ I) (hin : ∀ m ∈ I, z m ≤ L) (hatt : z js = L) (hout : ∀ m, m ∉ I → L ≤ z m)
    [DecidablePred (fun m => z m < L)] [DecidablePred (fun m => z m ≤ L)] :
    (univ.filter (fun m => z m < L)).card ≤ I.card - 1 ∧
      I.card ≤ (univ.filter (fun m => z m ≤ L)).card := by
  constructor
  · rw [← card_erase_of_mem hjs]
    apply card_le_card
    intro m hm
    rw [mem_filter] at hm
    rw [mem_erase]
    refine ⟨?_, by_contra (fun hmI => not_lt.mpr (hout m hmI) hm.2)⟩
    rintro rfl
    exact ne_of_lt hm.2 hatt
  · exact card_le_card (fun m hm => mem_filter.mpr ⟨mem_univ m, hin m hm⟩)

/-- the anti-diagonal coupling of index sum `s`: `m` is paired with `s - m` wherever that is an
index, the other indices are paired with themselves -/
def antiDiag {n : ℕ} (s : ℕ) (m : Fin n) : Fin n :=
  if h : m.val ≤ s ∧ s - m.val < n then ⟨s - m.val, h.2⟩ else m

theorem antiDiag_val {n : ℕ} (s : ℕ) (m : Fin n) (h1 : m.val ≤ s) (h2 : s - m.val < n) :
    (antiDiag s m).val = s - m.val := by
  simp [antiDiag, h1, h2]

theorem antiDiag_self {n : ℕ} (s : ℕ) (m : Fin n) (h : ¬ (m.val ≤ s ∧ s - m.val < n)) :
    antiDiag s m = m := by
  simp [antiDiag, h]

theorem antiDiag_invol {n : ℕ} (s : ℕ) : Function.Involutive (antiDiag (n := n) s) := by
  intro m
  by_cases h : m.val ≤ s ∧ s - m.val < n
  · have hv := antiDiag_val s m h.1 h.2
    apply Fin.ext
    rw [antiDiag_val s _ (by omega) (by omega), hv]
    omega
  · rw [antiDiag_self s m h, antiDiag_self s m h]

theorem frechet_left_tight {n : ℕ} (op : α → α → α)
    (hop : ∀ p p' q q', p ≤ p' → q ≤ q' → op p q ≤ op p' q')
    (a b : Fin n → α) (ha : Monotone a) (hb : Monotone b) (i : Fin n) (L : α)
    (hub : ∀ j k : Fin n, j.val + k.val = i.val → op (a j) (b k) ≤ L)
    (hatt : ∃ j k : Fin n, j.val + k.val = i.val ∧ op (a j) (b k) = L) :
    ∃ σ : Equiv.Perm (Fin n),
      (univ.filter (fun m : Fin n => op (a m) (b (σ m)) < L)).card ≤ i.val ∧
      i.val + 1 ≤ (univ.filter (fun m : Fin n => op (a m) (b (σ m)) ≤ L)).card := by
  obtain ⟨js, ks, hjk, hL⟩ := hatt
  refine ⟨(antiDiag_invol i.val).toPerm _, ?_⟩
  simp only [Function.Involutive.coe_toPerm]
  -- on the block `{0..i}` the outcomes lie on the anti-diagonal of `L`, above it they dominate `L`
  have hin : ∀ m ∈ Iic i, op (a m) (b (antiDiag i.val m)) ≤ L := fun m hm => by
    have hm' := Fin.le_def.mp (mem_Iic.mp hm)
    exact hub m _ (by rw [antiDiag_val i.val m hm' (by omega)]; omega)
  have hjs : op (a js) (b (antiDiag i.val js)) = L := by
    have : antiDiag i.val js = ks :=
      Fin.ext (by rw [antiDiag_val i.val js (by omega) (by omega)]; omega)
    rw [this, hL]
  have hout : ∀ m, m ∉ Iic i → L ≤ op (a m) (b (antiDiag i.val m)) := fun m hm => by
    have hm' : i.val < m.val := Fin.lt_def.mp (not_le.mp (fun h => hm (mem_Iic.mpr h)))
    rw [antiDiag_self i.val m (by omega), ← hL]
    exact hop _ _ _ _ (ha (Fin.le_def.mpr (by omega))) (hb (Fin.le_def.mpr (by omega)))
  have h := rank_of_block (fun m => op (a m) (b (antiDiag i.val m))) L (Iic i) js
    (mem_Iic.mpr (Fin.le_def.mpr (by omega))) hin hjs hout
  rwa [Fin.card_Iic, Nat.add_sub_cancel] at h

/-- **Frechet right bound is best possible**: the anti-diagonal coupling of index sum `n-1+i`
(identity below `i`, `m ↦ n-1+i-m` on `{i..n-1}`) of the right-bounding selections makes the `i`-th
smallest outcome equal to `R`.  The rank argument is that of the left bound in the reversed order. -/
theorem frechet_right_tight {n : ℕ} (op : α → α → α)
    (hop : ∀ p p' q q', p ≤ p' → q ≤ q' → op p q ≤ op p' q')
    (A B : Fin n → α) (hA : Monotone A) (hB : Monotone B) (i : Fin n) (R : α)
    (hlb : ∀ j k : Fin n, j.val + k.val = n - 1 + i.val → R ≤ op (A j) (B k))
    (hatt : ∃ j k : Fin n, j.val + k.val = n - 1 + i.val ∧ op (A j) (B k) = R) :
    ∃ σ : Equiv.Perm (Fin n),
      (univ.filter (fun m : Fin n => R < op (A m) (B (σ m)))).card ≤ n - 1 - i.val ∧
      n - i.val ≤ (univ.filter (fun m : Fin n => R ≤ op (A m) (B (σ m)))).card := by
  obtain ⟨js, ks, hjk, hR⟩ := hatt
  have hjlt := js.isLt
  have hklt := ks.isLt
  refine ⟨(antiDiag_invol (n - 1 + i.val)).toPerm _, ?_⟩
  simp only [Function.Involutive.coe_toPerm]
  have hin : ∀ m ∈ Ici i, R ≤ op (A m) (B (antiDiag (n - 1 + i.val) m)) := fun m hm => by
    have hm' := Fin.le_def.mp (mem_Ici.mp hm)
    have hmlt := m.isLt
    exact hlb m _ (by rw [antiDiag_val _ m (by omega) (by omega)]; omega)
  have hjs : op (A js) (B (antiDiag (n - 1 + i.val) js)) = R := by
    have : antiDiag (n - 1 + i.val) js = ks :=
      Fin.ext (by rw [antiDiag_val _ js (by omega) (by omega)]; omega)
    rw [this, hR]
  have hout : ∀ m, m ∉ Ici i → op (A m) (B (antiDiag (n - 1 + i.val) m)) ≤ R := fun m hm => by
    have hm' : m.val < i.val := Fin.lt_def.mp (not_le.mp (fun h => hm (mem_Ici.mpr h)))
    rw [antiDiag_self _ m (by omega), ← hR]
    exact hop _ _ _ _ (hA (Fin.le_def.mpr (by omega))) (hB (Fin.le_def.mpr (by omega)))
  have h := rank_of_block (α := αᵒᵈ) (fun m => op (A m) (B (antiDiag (n - 1 + i.val) m))) R (Ici i) js
    (mem_Ici.mpr (Fin.le_def.mpr (by omega))) hin hjs hout
  rw [Fin.card_Ici] at h
  exact ⟨le_trans h.1 (by omega), h.2⟩

end Pun.Frechet
