import Pun.Model.Proto
import Mathlib.Data.List.Sort
import Mathlib.Algebra.Order.Field.Rat
namespace Pun

theorem sortR_perm (l : List Rat) : (sortR l).Perm l := List.mergeSort_perm l _

theorem sortR_length (l : List Rat) : (sortR l).length = l.length := (sortR_perm l).length_eq

theorem sortR_sorted (l : List Rat) : (sortR l).Pairwise (· ≤ ·) := by
  have := List.pairwise_mergeSort (le := fun a b : Rat => decide (a ≤ b))
    (fun a b c h1 h2 => by simp at h1 h2 ⊢; exact le_trans h1 h2)
    (fun a b => by simp; exact le_total a b) l
  exact this.imp (fun h => by simpa using h)

theorem sortR_of_sorted (l : List Rat) (h : l.Pairwise (· ≤ ·)) : sortR l = l :=
  List.mergeSort_of_pairwise (h.imp (fun hab => by simpa using hab))

theorem sortR_eq_of_perm (l m : List Rat) (hp : l.Perm m) (hs : m.Pairwise (· ≤ ·)) : sortR l = m :=
  ((sortR_perm l).trans hp).eq_of_pairwise' (sortR_sorted l) hs

end Pun
