import Pun.Lemmas.PBoxNum
/-!
# `-P`: an antitone image — steps negated and listed in reverse order, bounds exchanged;
the sign routing of the Frechet product through `neg`, as equations (`mul_f_noStraddle`, `noStraddle_pp/np/pn/nn`)
-/
namespace Pun.PBox.Num
open Pun Pun.PBox List

theorem neg_wf (n : Nat) (P : PB) (h : WF n P) :
    WF n ⟨P.right.reverse.map (- ·), P.left.reverse.map (- ·)⟩ :=
  wf_map_anti n P h (- ·) (fun _ => True) (fun _ _ => trivial) (fun _ _ => trivial)
    (fun _ _ _ _ hxy => neg_le_neg hxy)

theorem neg_ok (n : Nat) (P : PB) (h : WF n P) :
    neg n P = .ok ⟨P.right.reverse.map (- ·), P.left.reverse.map (- ·)⟩ := by
  have w := neg_wf n P h
  unfold neg
  rw [sortR_of_sorted _ w.sortedL, sortR_of_sorted _ w.sortedR]
  exact mk_ok_of_le n true _ _ w.lenL w.lenR w.sortedL w.sortedR w.le

end Pun.PBox.Num

namespace Pun.PBox
open Pun

theorem swapPO_ne_unknown (d : Dep) (hd : d ≠ .unknown) : swapPO d ≠ .unknown := by
  cases d <;> simp [swapPO] at hd ⊢

theorem ok_bind {α β : Type} (a : α) (f : α → Except Err β) :
    ((Except.ok a : Except Err α) >>= f) = f a := rfl

/-! ### the sign routing of `frechet_pbox_mul`, case by case (`hi ≤ 0`: the operand is negated first) -/

theorem noStraddle_pp (n : Nat) (x y : PB) (hx : ¬ hi x ≤ 0) (hy : ¬ hi y ≤ 0) :
    frechetMulNoStraddle n x y = classicFrechet n (· * ·) x y := by
  simp only [frechetMulNoStraddle, hx, hy, decide_false, Bool.or_self, Bool.false_eq_true, if_false]

theorem noStraddle_np (n : Nat) (x y : PB) (hx : hi x ≤ 0) (hy : ¬ hi y ≤ 0) :
    frechetMulNoStraddle n x y = (neg n x >>= fun a => classicFrechet n (· * ·) a y >>= neg n) := by
  simp only [frechetMulNoStraddle, negativeFrechet, hx, hy, decide_true, decide_false, Bool.true_or, if_true,
    if_false, Bool.true_xor, Bool.not_false]
  rfl

theorem noStraddle_pn (n : Nat) (x y : PB) (hx : ¬ hi x ≤ 0) (hy : hi y ≤ 0) :
    frechetMulNoStraddle n x y = (neg n y >>= fun b => classicFrechet n (· * ·) x b >>= neg n) := by
  simp only [frechetMulNoStraddle, negativeFrechet, hx, hy, decide_true, decide_false, Bool.or_true, if_true,
    if_false, Bool.false_xor]
  rfl

theorem noStraddle_nn (n : Nat) (x y : PB) (hx : hi x ≤ 0) (hy : hi y ≤ 0) :
    frechetMulNoStraddle n x y = (neg n x >>= fun a => neg n y >>= fun b => classicFrechet n (· * ·) a b) := by
  simp only [frechetMulNoStraddle, negativeFrechet, hx, hy, decide_true, Bool.or_self, if_true, Bool.xor_self,
    Bool.false_eq_true, if_false, bind_pure]

theorem mul_f_noStraddle (n : Nat) (x y : PB) (sx : straddlesZero x = false) (sy : straddlesZero y = false) :
    mul n .f x y = frechetMulNoStraddle n x y := by
  simp only [mul, frechetMul, sx, sy, Bool.or_self, Bool.false_eq_true, if_false]

end Pun.PBox
